import SdJwt.Lemmas.Tree
import SdJwt.Lemmas.Marks
/-!
# The pointers the restoring walk reports are the pointers of the marked nodes

`T.paths p` lists (JSON pointer, digest) of every marked node of `T`.  One walk reports
`T.tpaths g p`: the pointers of the *visible* nodes marked `g`.  Revealing a node moves nothing,
so what later walks report are still pointers of the original tree.
-/
open Spec

mutual
theorem MJ.tpaths_sub_paths (g : String) : (T : MJ) → (p : String) → ∀ q ∈ T.tpaths g p, (q, g) ∈ T.paths p
  | .leaf _, _, q, h => by simp [MJ.tpaths] at h
  | .arr xs, p, q, h => by
    simp only [MJ.tpaths] at h
    simpa [MJ.paths] using MElems.tpaths_sub_paths g xs p 0 q h
  | .obj ms _, p, q, h => by
    simp only [MJ.tpaths, List.mem_append] at h
    simp only [MJ.paths]
    rcases h with h | h
    · exact MMems.ownPaths_sub_paths g ms p q h
    · exact MMems.tpaths_sub_paths g ms p q h
theorem MElems.tpaths_sub_paths (g : String) : (xs : MElems) → (p : String) → (i : Nat) →
    ∀ q ∈ xs.tpaths g p i, (q, g) ∈ xs.paths p i
  | .nil, _, _, q, h => by simp [MElems.tpaths] at h
  | .clear x r, p, i, q, h => by
    simp only [MElems.tpaths, List.mem_append] at h
    simp only [MElems.paths, List.mem_append]
    rcases h with h | h
    · exact .inl (MJ.tpaths_sub_paths g x _ q h)
    · exact .inr (MElems.tpaths_sub_paths g r p (i+1) q h)
  | .marked dg x r, p, i, q, h => by
    simp only [MElems.tpaths, List.mem_append] at h
    simp only [MElems.paths, List.mem_cons, List.mem_append]
    rcases h with h | h
    · by_cases hd : dg = g
      · subst hd
        simp only [if_true, List.mem_singleton] at h
        exact .inl (by rw [h])
      · simp [hd] at h
    · exact .inr (.inr (MElems.tpaths_sub_paths g r p (i+1) q h))
  | .decoy _ r, p, i, q, h => by
    simp only [MElems.tpaths] at h
    simpa [MElems.paths] using MElems.tpaths_sub_paths g r p (i+1) q h
theorem MMems.tpaths_sub_paths (g : String) : (ms : MMems) → (p : String) →
    ∀ q ∈ ms.tpaths g p, (q, g) ∈ ms.paths p
  | .nil, _, q, h => by simp [MMems.tpaths] at h
  | .clear k x r, p, q, h => by
    simp only [MMems.tpaths, List.mem_append] at h
    simp only [MMems.paths, List.mem_append]
    rcases h with h | h
    · exact .inl (MJ.tpaths_sub_paths g x _ q h)
    · exact .inr (MMems.tpaths_sub_paths g r p q h)
  | .marked k dg x r, p, q, h => by
    simp only [MMems.tpaths] at h
    simp only [MMems.paths, List.mem_cons, List.mem_append]
    exact .inr (.inr (MMems.tpaths_sub_paths g r p q h))
theorem MMems.ownPaths_sub_paths (g : String) : (ms : MMems) → (p : String) →
    ∀ q ∈ ms.ownPaths g p, (q, g) ∈ ms.paths p
  | .nil, _, q, h => by simp [MMems.ownPaths] at h
  | .clear k x r, p, q, h => by
    simp only [MMems.ownPaths] at h
    simp only [MMems.paths, List.mem_append]
    exact .inr (MMems.ownPaths_sub_paths g r p q h)
  | .marked k dg x r, p, q, h => by
    simp only [MMems.ownPaths, List.mem_append] at h
    simp only [MMems.paths, List.mem_cons, List.mem_append]
    rcases h with h | h
    · by_cases hd : dg = g
      · subst hd; simp at h; exact .inl (by rw [h])
      · simp [hd] at h
    · exact .inr (.inr (MMems.ownPaths_sub_paths g r p q h))
end

mutual
/-- revealing moves nothing: the marked nodes that remain keep their pointers -/
theorem MJ.paths_revealTop (g : String) : (T : MJ) → (p : String) →
    ∀ e ∈ (T.revealTop g).paths p, e ∈ T.paths p
  | .leaf _, _, e, h => by simp [MJ.revealTop, MJ.paths] at h
  | .arr xs, p, e, h => by
    simp only [MJ.revealTop, MJ.paths] at h ⊢
    exact MElems.paths_revealTop g xs p 0 e h
  | .obj ms _, p, e, h => by
    simp only [MJ.revealTop, MJ.paths] at h ⊢
    exact MMems.paths_revealTop g ms p e h
theorem MElems.paths_revealTop (g : String) : (xs : MElems) → (p : String) → (i : Nat) →
    ∀ e ∈ (xs.revealTop g).paths p i, e ∈ xs.paths p i
  | .nil, _, _, e, h => by simp [MElems.revealTop, MElems.paths] at h
  | .clear x r, p, i, e, h => by
    simp only [MElems.revealTop, MElems.paths, List.mem_append] at h ⊢
    rcases h with h | h
    · exact .inl (MJ.paths_revealTop g x _ e h)
    · exact .inr (MElems.paths_revealTop g r p (i+1) e h)
  | .marked dg x r, p, i, e, h => by
    simp only [MElems.revealTop] at h
    simp only [MElems.paths, List.mem_cons, List.mem_append]
    by_cases hd : dg = g
    · simp only [hd, if_true, MElems.paths, List.mem_append] at h
      rcases h with h | h
      · exact .inr (.inl h)
      · exact .inr (.inr (MElems.paths_revealTop g r p (i+1) e h))
    · simp only [hd, if_false, MElems.paths, List.mem_cons, List.mem_append] at h
      rcases h with h | h | h
      · exact .inl h
      · exact .inr (.inl h)
      · exact .inr (.inr (MElems.paths_revealTop g r p (i+1) e h))
  | .decoy dg r, p, i, e, h => by
    simp only [MElems.revealTop, MElems.paths] at h ⊢
    exact MElems.paths_revealTop g r p (i+1) e h
theorem MMems.paths_revealTop (g : String) : (ms : MMems) → (p : String) →
    ∀ e ∈ (ms.revealTop g).paths p, e ∈ ms.paths p
  | .nil, _, e, h => by simp [MMems.revealTop, MMems.paths] at h
  | .clear k x r, p, e, h => by
    simp only [MMems.revealTop, MMems.paths, List.mem_append] at h ⊢
    rcases h with h | h
    · exact .inl (MJ.paths_revealTop g x _ e h)
    · exact .inr (MMems.paths_revealTop g r p e h)
  | .marked k dg x r, p, e, h => by
    simp only [MMems.revealTop] at h
    simp only [MMems.paths, List.mem_cons, List.mem_append]
    by_cases hd : dg = g
    · simp only [hd, if_true, MMems.paths, List.mem_append] at h
      rcases h with h | h
      · exact .inr (.inl h)
      · exact .inr (.inr (MMems.paths_revealTop g r p e h))
    · simp only [hd, if_false, MMems.paths, List.mem_cons, List.mem_append] at h
      rcases h with h | h | h
      · exact .inl h
      · exact .inr (.inl h)
      · exact .inr (.inr (MMems.paths_revealTop g r p e h))
end

mutual
/-- one walk reports one pointer per visible node marked `g` -/
theorem MJ.tpaths_length (g : String) : (T : MJ) → (p : String) → (T.tpaths g p).length = T.topMarks.count g
  | .leaf _, _ => by simp [MJ.tpaths, MJ.topMarks]
  | .arr xs, p => by simpa [MJ.tpaths, MJ.topMarks] using MElems.tpaths_length g xs p 0
  | .obj ms _, p => by
    simp only [MJ.tpaths, MJ.topMarks, List.length_append]
    exact MMems.tpaths_length g ms p
theorem MElems.tpaths_length (g : String) : (xs : MElems) → (p : String) → (i : Nat) →
    (xs.tpaths g p i).length = xs.topMarks.count g
  | .nil, _, _ => by simp [MElems.tpaths, MElems.topMarks]
  | .clear x r, p, i => by
    simp [MElems.tpaths, MElems.topMarks, List.count_append, MJ.tpaths_length g x, MElems.tpaths_length g r p (i+1)]
  | .marked dg x r, p, i => by
    by_cases hd : dg = g
    · simp [MElems.tpaths, MElems.topMarks, hd, MElems.tpaths_length g r p (i+1)]
    · simp [MElems.tpaths, MElems.topMarks, hd, List.count_cons, MElems.tpaths_length g r p (i+1)]
  | .decoy _ r, p, i => by
    simpa [MElems.tpaths, MElems.topMarks] using MElems.tpaths_length g r p (i+1)
theorem MMems.tpaths_length (g : String) : (ms : MMems) → (p : String) →
    (ms.ownPaths g p).length + (ms.tpaths g p).length = ms.topMarks.count g
  | .nil, _ => by simp [MMems.tpaths, MMems.ownPaths, MMems.topMarks]
  | .clear k x r, p => by
    have := MMems.tpaths_length g r p
    simp only [MMems.tpaths, MMems.ownPaths, MMems.topMarks, List.count_append, List.length_append,
      MJ.tpaths_length g x]
    omega
  | .marked k dg x r, p => by
    have := MMems.tpaths_length g r p
    by_cases hd : dg = g
    · simp only [MMems.tpaths, MMems.ownPaths, MMems.topMarks, hd, if_true, List.length_append,
        List.length_cons, List.length_nil, List.count_cons_self]
      omega
    · simp only [MMems.tpaths, MMems.ownPaths, MMems.topMarks, hd, if_false, List.nil_append,
        List.count_cons, beq_iff_eq]
      simp [hd]; omega
end

mutual
/-- revealing loses no mark other than the revealed one -/
theorem MJ.mem_allMarks_revealTop (g h : String) : (T : MJ) → h ∈ T.allMarks →
    h = g ∨ h ∈ (T.revealTop g).allMarks
  | .leaf _, hh => by simp [MJ.allMarks] at hh
  | .arr xs, hh => by
    simp only [MJ.allMarks, MJ.revealTop] at hh ⊢
    exact MElems.mem_allMarks_revealTop g h xs hh
  | .obj ms _, hh => by
    simp only [MJ.allMarks, MJ.revealTop] at hh ⊢
    exact MMems.mem_allMarks_revealTop g h ms hh
theorem MElems.mem_allMarks_revealTop (g h : String) : (xs : MElems) → h ∈ xs.allMarks →
    h = g ∨ h ∈ (xs.revealTop g).allMarks
  | .nil, hh => by simp [MElems.allMarks] at hh
  | .clear x r, hh => by
    simp only [MElems.allMarks, List.mem_append] at hh
    simp only [MElems.revealTop, MElems.allMarks, List.mem_append]
    rcases hh with hh | hh
    · exact (MJ.mem_allMarks_revealTop g h x hh).imp id .inl
    · exact (MElems.mem_allMarks_revealTop g h r hh).imp id .inr
  | .marked dg x r, hh => by
    simp only [MElems.allMarks, List.mem_cons, List.mem_append] at hh
    simp only [MElems.revealTop]
    by_cases hd : dg = g
    · simp only [hd, if_true, MElems.allMarks, List.mem_append]
      rcases hh with hh | hh | hh
      · exact .inl (hh.trans hd)
      · exact .inr (.inl hh)
      · exact (MElems.mem_allMarks_revealTop g h r hh).imp id .inr
    · simp only [hd, if_false, MElems.allMarks, List.mem_cons, List.mem_append]
      rcases hh with hh | hh | hh
      · exact .inr (.inl hh)
      · exact .inr (.inr (.inl hh))
      · exact (MElems.mem_allMarks_revealTop g h r hh).imp id (fun z => .inr (.inr z))
  | .decoy _ r, hh => by
    simp only [MElems.allMarks] at hh
    simpa [MElems.revealTop, MElems.allMarks] using MElems.mem_allMarks_revealTop g h r hh
theorem MMems.mem_allMarks_revealTop (g h : String) : (ms : MMems) → h ∈ ms.allMarks →
    h = g ∨ h ∈ (ms.revealTop g).allMarks
  | .nil, hh => by simp [MMems.allMarks] at hh
  | .clear k x r, hh => by
    simp only [MMems.allMarks, List.mem_append] at hh
    simp only [MMems.revealTop, MMems.allMarks, List.mem_append]
    rcases hh with hh | hh
    · exact (MJ.mem_allMarks_revealTop g h x hh).imp id .inl
    · exact (MMems.mem_allMarks_revealTop g h r hh).imp id .inr
  | .marked k dg x r, hh => by
    simp only [MMems.allMarks, List.mem_cons, List.mem_append] at hh
    simp only [MMems.revealTop]
    by_cases hd : dg = g
    · simp only [hd, if_true, MMems.allMarks, List.mem_append]
      rcases hh with hh | hh | hh
      · exact .inl (hh.trans hd)
      · exact .inr (.inl hh)
      · exact (MMems.mem_allMarks_revealTop g h r hh).imp id .inr
    · simp only [hd, if_false, MMems.allMarks, List.mem_cons, List.mem_append]
      rcases hh with hh | hh | hh
      · exact .inr (.inl hh)
      · exact .inr (.inr (.inl hh))
      · exact (MMems.mem_allMarks_revealTop g h r hh).imp id (fun z => .inr (.inr z))
end

mutual
/-- a tree with a mark has a visible mark -/
theorem MJ.top_of_mark : (T : MJ) → T.topMarks = [] → T.allMarks = []
  | .leaf _, _ => rfl
  | .arr xs, h => by simpa [MJ.allMarks] using MElems.top_of_mark xs (by simpa [MJ.topMarks] using h)
  | .obj ms _, h => by simpa [MJ.allMarks] using MMems.top_of_mark ms (by simpa [MJ.topMarks] using h)
theorem MElems.top_of_mark : (xs : MElems) → xs.topMarks = [] → xs.allMarks = []
  | .nil, _ => rfl
  | .clear x r, h => by
    simp only [MElems.topMarks, List.append_eq_nil_iff] at h
    simp [MElems.allMarks, MJ.top_of_mark x h.1, MElems.top_of_mark r h.2]
  | .marked dg x r, h => by simp [MElems.topMarks] at h
  | .decoy _ r, h => by
    simpa [MElems.allMarks] using MElems.top_of_mark r (by simpa [MElems.topMarks] using h)
theorem MMems.top_of_mark : (ms : MMems) → ms.topMarks = [] → ms.allMarks = []
  | .nil, _ => rfl
  | .clear k x r, h => by
    simp only [MMems.topMarks, List.append_eq_nil_iff] at h
    simp [MMems.allMarks, MJ.top_of_mark x h.1, MMems.top_of_mark r h.2]
  | .marked k dg x r, h => by simp [MMems.topMarks] at h
end

mutual
/-- the digests listed by `paths` are the marks, in the same order -/
theorem MJ.paths_snd : (T : MJ) → (p : String) → (T.paths p).map (·.2) = T.allMarks
  | .leaf _, _ => rfl
  | .arr xs, p => by simpa [MJ.paths, MJ.allMarks] using MElems.paths_snd xs p 0
  | .obj ms _, p => by simpa [MJ.paths, MJ.allMarks] using MMems.paths_snd ms p
theorem MElems.paths_snd : (xs : MElems) → (p : String) → (i : Nat) → (xs.paths p i).map (·.2) = xs.allMarks
  | .nil, _, _ => rfl
  | .clear x r, p, i => by simp [MElems.paths, MElems.allMarks, MJ.paths_snd x, MElems.paths_snd r p (i+1)]
  | .marked dg x r, p, i => by simp [MElems.paths, MElems.allMarks, MJ.paths_snd x, MElems.paths_snd r p (i+1)]
  | .decoy _ r, p, i => by simpa [MElems.paths, MElems.allMarks] using MElems.paths_snd r p (i+1)
theorem MMems.paths_snd : (ms : MMems) → (p : String) → (ms.paths p).map (·.2) = ms.allMarks
  | .nil, _ => rfl
  | .clear k x r, p => by simp [MMems.paths, MMems.allMarks, MJ.paths_snd x, MMems.paths_snd r p]
  | .marked k dg x r, p => by simp [MMems.paths, MMems.allMarks, MJ.paths_snd x, MMems.paths_snd r p]
end
