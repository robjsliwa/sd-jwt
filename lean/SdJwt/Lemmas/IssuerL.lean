import SdJwt.Impl.Issuer
/-! Issuer lemmas: totality on claims objects, what a successful step keeps, error classification of
unresolvable paths. Totality is stated as `f x ≠ .panic` (what `(f x).NoPanic` unfolds to), as in
`Lemmas/Total.lean`. -/
open Assoc Spec
namespace Impl

@[simp] theorem hideIn_noPanic (mk : Option String → J → String) (key : String) (p : J) :
    hideIn mk key p ≠ .panic := by
  fun_cases hideIn mk key p <;> simp

theorem updateAt_noPanic {α : Type} (f : J → Outcome (J × α)) (hf : ∀ j, f j ≠ .panic)
    (toks : List String) (j : J) : updateAt f toks j ≠ .panic := by
  fun_induction updateAt f toks j <;> simp_all

@[simp] theorem parentElem_noPanic (p : List Char) : parentElem p ≠ .panic := by
  fun_cases parentElem p <;> simp

@[simp] theorem buildDisclosure_noPanic (mk : Option String → J → String) (c : J) (p : String) :
    buildDisclosure mk c p ≠ .panic := by
  fun_cases buildDisclosure mk c p <;> simp_all [updateAt_noPanic]

@[simp] theorem applyPaths_noPanic (mk : Nat → Option String → J → String) (i : Nat) (c : J)
    (ps : List String) : applyPaths mk i c ps ≠ .panic := by
  fun_induction applyPaths mk i c ps <;> simp_all

/-- whatever every result of `f` has, the result of `updateAt f` has -/
theorem updateAt_prop {α : Type} (f : J → Outcome (J × α)) (P : α → Prop)
    (hf : ∀ j j' d, f j = .ok (j', d) → P d) (toks : List String) (j j' : J) (d : α)
    (h : updateAt f toks j = .ok (j', d)) : P d := by
  fun_induction updateAt f toks j generalizing j'
  case case1 => exact hf _ _ _ h
  all_goals simp_all

/-- the digest recorded for a disclosure is the digest function applied to its own name and value -/
theorem hideIn_digest (f : Option String → J → String) (kk : String) (p p' : J) (d : DiscSrc)
    (hh : hideIn f kk p = .ok (p', d)) : d.digest = f d.key d.value := by
  revert hh
  fun_cases hideIn f kk p <;> simp <;> rintro - rfl <;> rfl

theorem buildDisclosure_digest (f : Option String → J → String) (c c1 : J) (p : String) (d : DiscSrc)
    (hb : buildDisclosure f c p = .ok (c1, d)) : d.digest = f d.key d.value := by
  revert hb
  fun_cases buildDisclosure f c p
  case case4 => exact updateAt_prop _ (fun d => d.digest = f d.key d.value) (hideIn_digest f _) _ c c1 d
  all_goals simp

/-- hiding a node keeps an object an object -/
theorem hideIn_isObj (mk : Option String → J → String) (key : String) (p p' : J) (d : DiscSrc)
    (h : hideIn mk key p = .ok (p', d)) (ho : p.isObj = true) : p'.isObj = true := by
  revert h
  fun_cases hideIn mk key p <;> simp_all [J.isObj] <;> rintro rfl - <;> rfl

theorem updateAt_isObj {α : Type} (f : J → Outcome (J × α))
    (hf : ∀ j j' a, f j = .ok (j', a) → j.isObj = true → j'.isObj = true)
    (toks : List String) (j j' : J) (a : α)
    (h : updateAt f toks j = .ok (j', a)) (ho : j.isObj = true) : j'.isObj = true := by
  cases toks with
  | nil => exact hf _ _ _ h ho
  | cons t r =>
    cases j <;> try cases ho
    revert h
    simp only [updateAt]
    split <;> try split
    all_goals simp
    rintro rfl -; rfl

theorem buildDisclosure_isObj (mk : Option String → J → String) (c c' : J) (p : String) (d : DiscSrc)
    (h : buildDisclosure mk c p = .ok (c', d)) (ho : c.isObj = true) : c'.isObj = true := by
  revert h
  fun_cases buildDisclosure mk c p
  case case4 => exact fun h => updateAt_isObj _ (hideIn_isObj mk _) _ _ _ _ h ho
  all_goals simp

theorem applyPaths_isObj (mk : Nat → Option String → J → String) (i : Nat) (c : J) (ps : List String)
    (c' : J) (ds : List DiscSrc) (h : applyPaths mk i c ps = .ok (c', ds)) (ho : c.isObj = true) :
    c'.isObj = true := by
  revert h
  fun_induction applyPaths mk i c ps generalizing c' ds <;> simp
  · rintro rfl -; exact ho
  · next hb _ _ _ ih => rintro rfl -; exact ih _ _ (buildDisclosure_isObj _ _ _ _ _ hb ho) ‹_›

theorem addDecoys_obj (l : List String) (ms : List (String × J)) :
    addDecoys l (.obj ms) = .err .sdType ∨ ∃ ms', addDecoys l (.obj ms) = .ok (.obj ms') := by
  simp only [addDecoys]; split <;> simp

/-- `Issuer::encode` never panics on a claims object: the working copy stays an object, on which
`build_decoys` returns an error or an object and `value[key] = v` inserts -/
theorem encode_noPanic_obj (claims : J) (paths : List String) (mk : Nat → Option String → J → String)
    (decoys : Option (List String)) (cnf : Option J) (ho : claims.isObj = true) :
    (encode claims paths mk decoys cnf).NoPanic := by
  unfold encode Outcome.NoPanic
  split
  · simp_all
  · simp
  next c1 ds ha =>
  obtain ⟨ms, rfl⟩ : ∃ ms, c1 = .obj ms := by
    have := applyPaths_isObj mk 0 claims paths c1 ds ha ho
    cases c1 <;> simp_all [J.isObj]
  cases decoys with
  | none => cases cnf <;> by_cases he : ds.isEmpty <;> simp [he, setMember]
  | some l =>
    rcases addDecoys_obj l ms with h | ⟨ms', h⟩ <;> cases cnf <;> by_cases he : ds.isEmpty <;>
      simp [h, he, setMember]

/-- a path without any `/` cannot be resolved -/
theorem parentElem_no_slash (p : List Char) (h : '/' ∉ p) : parentElem p = .err .path := by
  have : splitOn '/' p = [p] := by
    induction p with
    | nil => rfl
    | cons x xs ih => simp_all [splitOn, eq_comm]
  simp [parentElem, this]

end Impl
