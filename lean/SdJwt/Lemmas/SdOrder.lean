import SdJwt.Lemmas.Tree
import SdJwt.Lemmas.Marks
/-!
# The order of the digests in the digest lists a recipient sees does not matter

`T.sdPermVis T'`: `T'` is `T` with the `_sd` lists that are *visible in the payload* (not inside a hidden
claim) permuted — what the issuer's final `shuffle_digests` does to the claims it signs. Everything the
holder and the verifier compute from a token is a function of the marked tree up to this relation.
-/
open Spec

def sdOptPerm : Option (List String) → Option (List String) → Prop
  | none, none => True
  | some a, some b => a.Perm b
  | _, _ => False

mutual
def MJ.sdPermVis : MJ → MJ → Prop
  | .leaf a, T' => T' = .leaf a
  | .arr xs, T' => ∃ ys, T' = .arr ys ∧ xs.sdPermVis ys
  | .obj ms sd, T' => ∃ ms' sd', T' = .obj ms' sd' ∧ ms.sdPermVis ms' ∧ sdOptPerm sd sd'
def MElems.sdPermVis : MElems → MElems → Prop
  | .nil, E' => E' = .nil
  | .clear x r, E' => ∃ y r', E' = .clear y r' ∧ x.sdPermVis y ∧ r.sdPermVis r'
  | .marked g x r, E' => ∃ r', E' = .marked g x r' ∧ r.sdPermVis r'
  | .decoy g r, E' => ∃ r', E' = .decoy g r' ∧ r.sdPermVis r'
def MMems.sdPermVis : MMems → MMems → Prop
  | .nil, M' => M' = .nil
  | .clear k x r, M' => ∃ y r', M' = .clear k y r' ∧ x.sdPermVis y ∧ r.sdPermVis r'
  | .marked k g x r, M' => ∃ r', M' = .marked k g x r' ∧ r.sdPermVis r'
end

theorem sdOptPerm_getD {a b : Option (List String)} (h : sdOptPerm a b) : (b.getD []).Perm (a.getD []) := by
  cases a <;> cases b <;> simp_all [sdOptPerm]
  exact h.symm

/-! Everything that is computed from a tree, in one induction: the observables that never read an `_sd` list
are equal, those that collect digests are permuted, and conformance is kept. In every case but `.obj` each
observable is put together from those of the parts in the same way on both sides; in `.obj` the two lists differ
by `sdOptPerm_getD`. The single observables below are projections of this. -/
mutual
theorem MJ.sdPermVis_obs : (T T' : MJ) → T.sdPermVis T' →
    (∀ S, T'.project S = T.project S) ∧ T'.discs = T.discs ∧ T'.allMarks = T.allMarks ∧
    T'.hiddenE = T.hiddenE ∧ T'.digests.Perm T.digests ∧ T'.deepStale.Perm T.deepStale ∧ (T.WF → T'.WF)
  | .leaf a, _, h => by
    obtain rfl : _ = MJ.leaf a := h
    simp
  | .arr xs, _, h => by
    obtain ⟨ys, rfl, h⟩ := h
    simpa [MJ.project, MJ.discs, MJ.allMarks, MJ.hiddenE, MJ.digests, MJ.deepStale, MJ.WF]
      using MElems.sdPermVis_obs xs ys h
  | .obj ms sd, _, h => by
    obtain ⟨ms', sd', rfl, h, hsd⟩ := h
    obtain ⟨p, d, a, e, g, s, w, m, _⟩ := MMems.sdPermVis_obs ms ms' h
    have hsd := sdOptPerm_getD hsd
    refine ⟨by simp [MJ.project, p], d, a, e, hsd.append g, ?_, ?_⟩
    · simp only [MJ.deepStale, m]
      exact (hsd.filter _).append s
    · simp only [MJ.WF, m]
      exact fun ⟨w1, w2, w3⟩ => ⟨w w1, fun g hg => hsd.mem_iff.mpr (w2 g hg), w3⟩
theorem MElems.sdPermVis_obs : (E E' : MElems) → E.sdPermVis E' →
    (∀ S, E'.project S = E.project S) ∧ E'.discs = E.discs ∧ E'.allMarks = E.allMarks ∧
    E'.hiddenE = E.hiddenE ∧ E'.digests.Perm E.digests ∧ E'.deepStale.Perm E.deepStale ∧ (E.WF → E'.WF)
  | .nil, _, h => by
    obtain rfl : _ = MElems.nil := h
    simp
  | .clear x r, _, h => by
    obtain ⟨y, r', rfl, hx, hr⟩ := h
    obtain ⟨p1, d1, a1, e1, g1, s1, w1⟩ := MJ.sdPermVis_obs x y hx
    obtain ⟨p2, d2, a2, e2, g2, s2, w2⟩ := MElems.sdPermVis_obs r r' hr
    simp only [MElems.project, MElems.discs, MElems.allMarks, MElems.hiddenE, p1, p2, d1, d2, a1, a2, e1, e2, implies_true, true_and]
    exact ⟨g1.append g2, s1.append s2, fun w => ⟨w1 w.1, w2 w.2⟩⟩
  | .marked g x r, _, h => by
    obtain ⟨r', rfl, hr⟩ := h
    obtain ⟨p2, d2, a2, e2, g2, s2, w2⟩ := MElems.sdPermVis_obs r r' hr
    simp only [MElems.project, MElems.discs, MElems.allMarks, MElems.hiddenE, p2, d2, a2, e2, implies_true, true_and]
    exact ⟨(g2.append_left _).cons _, s2.append_left _, fun w => ⟨w.1, w2 w.2⟩⟩
  | .decoy g r, _, h => by
    obtain ⟨r', rfl, hr⟩ := h
    obtain ⟨p2, d2, a2, e2, g2, s2, w2⟩ := MElems.sdPermVis_obs r r' hr
    simp only [MElems.project, MElems.discs, MElems.allMarks, MElems.hiddenE, p2, d2, a2, e2, implies_true, true_and]
    exact ⟨g2.cons _, s2.cons _, w2⟩
theorem MMems.sdPermVis_obs : (M M' : MMems) → M.sdPermVis M' →
    (∀ S, M'.project S = M.project S) ∧ M'.discs = M.discs ∧ M'.allMarks = M.allMarks ∧
    M'.hiddenE = M.hiddenE ∧ M'.digests.Perm M.digests ∧ M'.deepStale.Perm M.deepStale ∧ (M.WF → M'.WF) ∧
    M'.marks = M.marks ∧ ∀ k, M.keysGt k → M'.keysGt k
  | .nil, _, h => by
    obtain rfl : _ = MMems.nil := h
    simp
  | .clear k x r, _, h => by
    obtain ⟨y, r', rfl, hx, hr⟩ := h
    obtain ⟨p1, d1, a1, e1, g1, s1, w1⟩ := MJ.sdPermVis_obs x y hx
    obtain ⟨p2, d2, a2, e2, g2, s2, w2, m2, k2⟩ := MMems.sdPermVis_obs r r' hr
    simp only [MMems.project, MMems.discs, MMems.allMarks, MMems.hiddenE, MMems.marks, p1, p2, d1, d2, a1, a2, e1, e2, m2, implies_true, true_and]
    exact ⟨g1.append g2, s1.append s2,
      fun ⟨a, b, c, d, e⟩ => ⟨a, b, w1 c, k2 k d, w2 e⟩, fun k0 h => ⟨h.1, k2 k0 h.2⟩⟩
  | .marked k g x r, _, h => by
    obtain ⟨r', rfl, hr⟩ := h
    obtain ⟨p2, d2, a2, e2, g2, s2, w2, m2, k2⟩ := MMems.sdPermVis_obs r r' hr
    simp only [MMems.project, MMems.discs, MMems.allMarks, MMems.hiddenE, MMems.marks, p2, d2, a2, e2, m2, implies_true, true_and]
    exact ⟨g2.append_left _, s2.append_left _,
      fun ⟨a, b, c, d, e⟩ => ⟨a, b, c, k2 k d, w2 e⟩, fun k0 h => ⟨h.1, k2 k0 h.2⟩⟩
end

theorem MJ.project_sdPermVis (S : String → Bool) (T T' : MJ) (h : T.sdPermVis T') : T'.project S = T.project S :=
  (MJ.sdPermVis_obs T T' h).1 S
theorem MElems.project_sdPermVis (S : String → Bool) : (E E' : MElems) → E.sdPermVis E' → E'.project S = E.project S :=
  fun E E' h => (MElems.sdPermVis_obs E E' h).1 S
theorem MMems.project_sdPermVis (S : String → Bool) : (M M' : MMems) → M.sdPermVis M' → M'.project S = M.project S :=
  fun M M' h => (MMems.sdPermVis_obs M M' h).1 S

theorem MJ.discs_sdPermVis (T T' : MJ) (h : T.sdPermVis T') : T'.discs = T.discs :=
  (MJ.sdPermVis_obs T T' h).2.1
theorem MElems.discs_sdPermVis : (E E' : MElems) → E.sdPermVis E' → E'.discs = E.discs :=
  fun E E' h => (MElems.sdPermVis_obs E E' h).2.1
theorem MMems.discs_sdPermVis : (M M' : MMems) → M.sdPermVis M' → M'.discs = M.discs :=
  fun M M' h => (MMems.sdPermVis_obs M M' h).2.1

theorem MJ.allMarks_sdPermVis (T T' : MJ) (h : T.sdPermVis T') : T'.allMarks = T.allMarks :=
  (MJ.sdPermVis_obs T T' h).2.2.1
theorem MElems.allMarks_sdPermVis : (E E' : MElems) → E.sdPermVis E' → E'.allMarks = E.allMarks :=
  fun E E' h => (MElems.sdPermVis_obs E E' h).2.2.1
theorem MMems.allMarks_sdPermVis : (M M' : MMems) → M.sdPermVis M' → M'.allMarks = M.allMarks :=
  fun M M' h => (MMems.sdPermVis_obs M M' h).2.2.1

theorem MJ.hiddenE_sdPermVis (T T' : MJ) (h : T.sdPermVis T') : T'.hiddenE = T.hiddenE :=
  (MJ.sdPermVis_obs T T' h).2.2.2.1
theorem MElems.hiddenE_sdPermVis : (E E' : MElems) → E.sdPermVis E' → E'.hiddenE = E.hiddenE :=
  fun E E' h => (MElems.sdPermVis_obs E E' h).2.2.2.1
theorem MMems.hiddenE_sdPermVis : (M M' : MMems) → M.sdPermVis M' → M'.hiddenE = M.hiddenE :=
  fun M M' h => (MMems.sdPermVis_obs M M' h).2.2.2.1

theorem MJ.digests_sdPermVis (T T' : MJ) (h : T.sdPermVis T') : T'.digests.Perm T.digests :=
  (MJ.sdPermVis_obs T T' h).2.2.2.2.1
theorem MElems.digests_sdPermVis : (E E' : MElems) → E.sdPermVis E' → E'.digests.Perm E.digests :=
  fun E E' h => (MElems.sdPermVis_obs E E' h).2.2.2.2.1
theorem MMems.digests_sdPermVis : (M M' : MMems) → M.sdPermVis M' → M'.digests.Perm M.digests :=
  fun M M' h => (MMems.sdPermVis_obs M M' h).2.2.2.2.1

theorem MJ.deepStale_sdPermVis (T T' : MJ) (h : T.sdPermVis T') : T'.deepStale.Perm T.deepStale :=
  (MJ.sdPermVis_obs T T' h).2.2.2.2.2.1
theorem MElems.deepStale_sdPermVis : (E E' : MElems) → E.sdPermVis E' → E'.deepStale.Perm E.deepStale :=
  fun E E' h => (MElems.sdPermVis_obs E E' h).2.2.2.2.2.1
theorem MMems.deepStale_sdPermVis : (M M' : MMems) → M.sdPermVis M' → M'.deepStale.Perm M.deepStale :=
  fun M M' h => (MMems.sdPermVis_obs M M' h).2.2.2.2.2.1

theorem MJ.WF_sdPermVis (T T' : MJ) (h : T.sdPermVis T') : T.WF → T'.WF :=
  (MJ.sdPermVis_obs T T' h).2.2.2.2.2.2
theorem MElems.WF_sdPermVis : (E E' : MElems) → E.sdPermVis E' → E.WF → E'.WF :=
  fun E E' h => (MElems.sdPermVis_obs E E' h).2.2.2.2.2.2
theorem MMems.WF_sdPermVis : (M M' : MMems) → M.sdPermVis M' → M.WF → M'.WF :=
  fun M M' h => (MMems.sdPermVis_obs M M' h).2.2.2.2.2.2.1


/-! ### the relation is reflexive, and permuting inside a clear child is permuting in the parent -/

theorem sdOptPerm_refl (a : Option (List String)) : sdOptPerm a a := by
  cases a <;> simp [sdOptPerm]

mutual
theorem MJ.sdPermVis_refl : (T : MJ) → T.sdPermVis T
  | .leaf _ => rfl
  | .arr xs => ⟨xs, rfl, MElems.sdPermVis_refl xs⟩
  | .obj ms sd => ⟨ms, sd, rfl, MMems.sdPermVis_refl ms, sdOptPerm_refl sd⟩
theorem MElems.sdPermVis_refl : (E : MElems) → E.sdPermVis E
  | .nil => rfl
  | .clear x r => ⟨x, r, rfl, MJ.sdPermVis_refl x, MElems.sdPermVis_refl r⟩
  | .marked g x r => ⟨r, rfl, MElems.sdPermVis_refl r⟩
  | .decoy g r => ⟨r, rfl, MElems.sdPermVis_refl r⟩
theorem MMems.sdPermVis_refl : (M : MMems) → M.sdPermVis M
  | .nil => rfl
  | .clear k x r => ⟨x, r, rfl, MJ.sdPermVis_refl x, MMems.sdPermVis_refl r⟩
  | .marked k g x r => ⟨r, rfl, MMems.sdPermVis_refl r⟩
end
