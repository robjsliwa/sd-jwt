import SdJwt.Lemmas.Ancestry
import SdJwt.Lemmas.Kept
import SdJwt.Lemmas.EndToEnd
/-!
# What the holder keeps, in terms of the tree

`Holder::build` filters its path list by string tests.  For the path list the holder has of a
conformant tree, these tests say: keep the disclosure of a marked node iff its pointer is not
redacted and it does not lie inside a marked node whose pointer is redacted.  What the verifier
then returns is the claims minus exactly the marked nodes whose pointer is redacted (and
everything inside them).
-/
open Assoc Spec Path
namespace Impl

/-- the marked node `g` is not redacted: no pointer of a node marked `g` is in `R` -/
def notRedacted (T : MJ) (R : List String) (g : String) : Bool :=
  (T.paths "").all (fun q => q.2 != g || !R.contains q.1)

/-- the holder's list: one entry per marked node, pointer + disclosure -/
def HolderList (T : MJ) (ps : List PathEntry) : Prop :=
  (ps.map (fun e => (e.1, e.2.digest))).Perm (T.paths "")

theorem HolderList.mem {T : MJ} {ps : List PathEntry} (h : HolderList T ps) {pe : PathEntry}
    (hpe : pe ∈ ps) : (pe.1, pe.2.digest) ∈ T.paths "" :=
  h.subset (List.mem_map_of_mem (f := fun e : PathEntry => (e.1, e.2.digest)) hpe)

theorem HolderList.exists {T : MJ} {ps : List PathEntry} (h : HolderList T ps) {q : String × String}
    (hq : q ∈ T.paths "") : ∃ pe ∈ ps, pe.1 = q.1 ∧ pe.2.digest = q.2 := by
  obtain ⟨pe, hpe, e⟩ := List.mem_map.mp (h.symm.subset hq)
  exact ⟨pe, hpe, by rw [← e], by rw [← e]⟩

/-- **What `Holder::build` keeps.** -/
theorem kept_iff_tree (T : MJ) (wf : T.WF) (nd : T.allMarks.Nodup) (ps : List PathEntry)
    (hps : HolderList T ps) (R : List String) (pe : PathEntry) :
    pe ∈ keptEntries ps R ↔
      pe ∈ ps ∧ pe.1 ∉ R ∧ ∀ q ∈ ps, q.1 ∈ R → pe.2.digest ∉ T.under q.2.digest := by
  rw [mem_keptEntries]
  constructor
  · rintro ⟨h1, h2, h3⟩
    refine ⟨h1, h2, fun q hq hr hu => h3 q hq hr ?_⟩
    exact (starts_with_iff_under T wf nd q.1 q.2.digest pe.1 pe.2.digest (hps.mem hq) (hps.mem h1)).mpr hu
  · rintro ⟨h1, h2, h3⟩
    refine ⟨h1, h2, fun q hq hr hp => h3 q hq hr ?_⟩
    exact (starts_with_iff_under T wf nd q.1 q.2.digest pe.1 pe.2.digest (hps.mem hq) (hps.mem h1)).mp hp

/-- in a tree with pairwise distinct marks a digest has one pointer -/
theorem ptr_unique (T : MJ) (nd : T.allMarks.Nodup) (q q' : String × String)
    (h : q ∈ T.paths "") (h' : q' ∈ T.paths "") (e : q.2 = q'.2) : q = q' :=
  inj_of_nodup_map (·.2) (T.paths "") (by rw [MJ.paths_snd]; exact nd) q h q' h' e

theorem notRedacted_iff (T : MJ) (nd : T.allMarks.Nodup) (R : List String) (q : String × String)
    (hq : q ∈ T.paths "") : notRedacted T R q.2 = true ↔ q.1 ∉ R := by
  unfold notRedacted
  simp only [List.all_eq_true, Bool.or_eq_true, bne_iff_ne, ne_eq, Bool.not_eq_true',
    List.contains_eq_mem, decide_eq_false_iff_not]
  constructor
  · intro h
    rcases h q hq with h1 | h1
    · exact absurd rfl h1
    · exact h1
  · intro h q' hq'
    by_cases e : q'.2 = q.2
    · right
      rw [ptr_unique T nd q' q hq' hq e]; exact h
    · left; exact e

/-- **The verifier sees the original minus the redacted claims and everything inside them.**
Projecting on the digests the holder keeps = projecting on "pointer not redacted". -/
theorem kept_project (T : MJ) (wf : T.WF) (nd : T.allMarks.Nodup) (ps : List PathEntry)
    (hps : HolderList T ps) (R : List String) :
    T.project (fun g => (keptEntries ps R).any (fun pe => pe.2.digest = g)) =
      T.project (notRedacted T R) := by
  apply MJ.project_inside (notRedacted T R) _ T nd
  intro g hg
  rw [← MJ.paths_snd T ""] at hg
  obtain ⟨q, hq, rfl⟩ := List.mem_map.mp hg
  obtain ⟨pe, hpe, hp1, hp2⟩ := hps.exists hq
  by_cases hkept : pe ∈ keptEntries ps R
  · -- kept: both selections show it
    left
    have h0 : notRedacted T R q.2 = true :=
      (notRedacted_iff T nd R q hq).mpr (hp1 ▸ ((kept_iff_tree T wf nd ps hps R pe).mp hkept).2.1)
    rw [h0]
    simp only [List.any_eq_true, decide_eq_true_eq]
    exact ⟨pe, hkept, hp2⟩
  · have h1 : ((keptEntries ps R).any fun pe => decide (pe.2.digest = q.2)) = false := by
      cases hany : (keptEntries ps R).any fun pe => decide (pe.2.digest = q.2) with
      | false => rfl
      | true =>
        exfalso
        simp only [List.any_eq_true, decide_eq_true_eq] at hany
        obtain ⟨pe', hk', hd'⟩ := hany
        have hin' := hps.mem ((kept_iff_tree T wf nd ps hps R pe').mp hk').1
        have : (pe'.1, pe'.2.digest) = q := ptr_unique T nd _ q hin' hq hd'
        have hpe' : pe' ∈ ps := ((kept_iff_tree T wf nd ps hps R pe').mp hk').1
        -- `pe'` and `pe` have the same pointer and digest; membership in `keptEntries` depends
        -- on those only
        apply hkept
        rw [kept_iff_tree T wf nd ps hps R] at hk' ⊢
        refine ⟨hpe, ?_, ?_⟩
        · rw [hp1, ← congrArg Prod.fst this]; exact hk'.2.1
        · intro q0 hq0 hr0
          rw [hp2, ← congrArg Prod.snd this]; exact hk'.2.2 q0 hq0 hr0
    rw [h1]
    by_cases hr : q.1 ∈ R
    · left
      have : notRedacted T R q.2 = false := by
        cases hn : notRedacted T R q.2 with
        | false => rfl
        | true => exact absurd hr ((notRedacted_iff T nd R q hq).mp hn)
      rw [this]
    · -- not redacted itself, yet not kept: it lies inside a redacted node
      right
      have : ¬ (pe ∈ ps ∧ pe.1 ∉ R ∧ ∀ q0 ∈ ps, q0.1 ∈ R → pe.2.digest ∉ T.under q0.2.digest) :=
        fun hh => hkept ((kept_iff_tree T wf nd ps hps R pe).mpr hh)
      have hex : ∃ q0 ∈ ps, q0.1 ∈ R ∧ pe.2.digest ∈ T.under q0.2.digest := by
        apply Classical.byContradiction
        intro hne
        apply this
        refine ⟨hpe, hp1 ▸ hr, fun q0 hq0 hr0 hu => hne ⟨q0, hq0, hr0, hu⟩⟩
      obtain ⟨q0, hq0, hr0, hu⟩ := hex
      refine ⟨q0.2.digest, hp2 ▸ hu, ?_, ?_⟩
      · cases hn : notRedacted T R q0.2.digest with
        | false => rfl
        | true =>
          have := (notRedacted_iff T nd R (q0.1, q0.2.digest) (hps.mem hq0)).mp hn
          exact absurd hr0 this
      · cases hany : (keptEntries ps R).any fun pe => decide (pe.2.digest = q0.2.digest) with
        | false => rfl
        | true =>
          exfalso
          simp only [List.any_eq_true, decide_eq_true_eq] at hany
          obtain ⟨pe', hk', hd'⟩ := hany
          have hk'' := (kept_iff_tree T wf nd ps hps R pe').mp hk'
          have : (pe'.1, pe'.2.digest) = (q0.1, q0.2.digest) :=
            ptr_unique T nd _ _ (hps.mem hk''.1) (hps.mem hq0) hd'
          exact hk''.2.1 ((congrArg Prod.fst this) ▸ hr0)

end Impl

namespace Impl

theorem fromBase64_str (env : Env) (s : String) (d : Disc) (h : fromBase64 env s = .ok d) : d.str = s := by
  unfold fromBase64 at h
  split at h
  · cases h
  · cases h; rfl
  · split at h
    · split at h
      · cases h
      · cases h; rfl
    · cases h
  · cases h

/-- **What `Holder::build` presents, for the holder's list of a conformant tree.**  Every entry of
`ps` is the decoding of one of the received strings `strs`.  Then what is kept are received
strings with pairwise different digests, and selecting by "hash of a kept string" is selecting by
"pointer not redacted". -/
theorem kept_selection (env : Env) (T : MJ) (inv : TreeInv T) (ps : List PathEntry)
    (hps : HolderList T ps) (strs : List String)
    (hfrom : ∀ e ∈ ps, ∃ s ∈ strs, fromBase64 env s = .ok e.2) (R : List String) :
    (∀ s ∈ keptDisclosures ps R, s ∈ strs) ∧ ((keptDisclosures ps R).map env.hash).Nodup ∧
      T.project (fun g => (keptDisclosures ps R).any fun s => decide (env.hash s = g)) =
        T.project (notRedacted T R) := by
  -- an entry records the string it was decoded from, and its digest is the hash of that string
  have hentry : ∀ pe ∈ keptEntries ps R, pe.2.str ∈ strs ∧ env.hash pe.2.str = pe.2.digest := by
    intro pe hpe
    obtain ⟨s, hs', hf⟩ := hfrom pe ((mem_keptEntries ps R pe).mp hpe).1
    rw [fromBase64_str _ s pe.2 hf]
    exact ⟨hs', (fromBase64_digest _ s pe.2 hf).symm⟩
  have hmapdig : (keptDisclosures ps R).map env.hash = (keptEntries ps R).map (·.2.digest) := by
    rw [keptDisclosures_eq, List.map_map]
    exact List.map_congr_left fun pe hpe => (hentry pe hpe).2
  refine ⟨fun s hs' => ?_, ?_, ?_⟩
  · obtain ⟨pe, hpe, rfl⟩ := List.mem_map.mp (keptDisclosures_eq ps R ▸ hs')
    exact (hentry pe hpe).1
  · rw [hmapdig]
    have hsl : (keptEntries ps R).Sublist ps := List.filter_sublist.trans List.filter_sublist
    refine (hsl.map _).nodup ?_
    have := (hps.map (·.2)).symm.nodup (by rw [MJ.paths_snd]; exact inv.ndm)
    rwa [List.map_map] at this
  · rw [← kept_project T inv.wf inv.ndm ps hps R]
    congr 1
    funext g
    have := congrArg (fun l => l.any (· = g)) hmapdig
    simpa [List.any_map, Function.comp_def] using this

/-- **Issuer → holder → redaction → verifier.**  The holder receives the issued token, gets its
path list `ps`, redacts ANY list `R` of strings; what `Holder::build` keeps
(`keptDisclosures ps R`) is accepted by the verifier, which returns the issued claims minus
exactly the marked nodes whose pointer is in `R`, and everything inside them. -/
theorem redact_verify_issued (rt : Rt) (mk : Nat → Option String → J → String)
    (paths : List String) (addr : List (List String × String)) (ms : MMems) (Tn : MJ)
    (ds : List SDisc) (decoys : Option (List String)) (jwt : String) (header : J)
    (strs : List String) (R : List String) (policy : Bool)
    (wf : (MJ.obj ms none).WF) (hplain : (MJ.obj ms none).digests = [])
    (hk1 : "_sd_alg" ∉ ms.keys) (hk2 : "cnf" ∉ ms.keys)
    (hp : ParsedAll paths addr) (h : markAll mk 0 addr (.obj ms none) = some (Tn, ds)) (hne : ds ≠ [])
    (hdec : ∀ l, decoys = some l → l.Nodup ∧ (∀ g ∈ l, g ∉ Tn.digests))
    (hsig : ∀ payload dsrc,
      encode (MJ.obj ms none).payload paths mk decoys none = .ok (payload, dsrc) →
      rt.jwtDecode jwt = .ok (header, payload))
    (hstr : ∀ s ∈ strs, ∃ e ∈ ds,
      fromBase64 (rt.env "sha-256") s = .ok ⟨s, e.digest, e.key, e.value⟩)
    (hnd : (strs.map (rt.hash "sha-256")).Nodup)
    (hall : ∀ e ∈ ds, ∃ s ∈ strs, rt.hash "sha-256" s = e.digest)
    (hj : '~' ∉ jwt.toList) (hs : ∀ s ∈ strs, '~' ∉ s.toList) :
    ∃ ps, Holder.verify rt (assemble jwt strs) = .ok (header, expectedClaims ms none, ps) ∧
      Verifier.verify rt (assemble jwt (keptDisclosures ps R)) policy =
        .ok (header, Tn.project (notRedacted Tn R)) := by
  have I : Issued mk paths addr ms Tn ds decoys none := ⟨wf, hplain, hk1, hk2, hp, h, hne, hdec, by simp⟩
  obtain ⟨ps, hver, hperm, hfrom⟩ := holder_verify_issued rt mk paths addr ms Tn ds decoys none jwt header
    strs wf hplain hk1 hk2 hp h hne hdec (by simp) hsig hstr hnd hall hj hs
  obtain ⟨hsub, hndk, hsel⟩ := kept_selection (rt.env "sha-256") Tn I.inv ps hperm strs hfrom R
  refine ⟨ps, hver, ?_⟩
  rw [verifier_verify_issued rt mk paths addr ms Tn ds decoys jwt header (keptDisclosures ps R)
    policy wf hplain hk1 hk2 hp h hne hdec hsig (fun s hs' => hstr s (hsub s hs')) hndk hj
    (fun s hs' => hs s (hsub s hs'))]
  exact congrArg (fun x => Outcome.ok (header, x)) hsel

end Impl

namespace Impl

/-- **`Holder::presentation` and `Holder::build` in the chain.**  If the unverified reading of
the JWT's claims segment (`decode_claims_no_verification`) yields the payload the JWT library
returns on verification, then `Holder::presentation` of the issued token succeeds with the
same path list `ps` as `Holder::verify`, and `Holder::build` after `redact(R)` emits exactly
`jwt~kept…~` for `kept = keptDisclosures ps R` (unbound token: no key-binding JWT). -/
theorem holder_presentation_build (rt : Rt) (jwt : String) (strs : List String) (header payload c : J)
    (ps : List PathEntry) (R : List String) (a b sig : List Char) (nonce : String) (now : Int)
    (hj : '~' ∉ jwt.toList) (hs : ∀ s ∈ strs, '~' ∉ s.toList)
    (hseg : splitOn '.' jwt.toList = [a, b, sig])
    (hclaims : rt.decodeClaims (strOf b) = some payload)
    (halg : (jidx payload "_sd_alg").asStr = some "sha-256")
    (hcnf : jget? payload "cnf" = none)
    (hr : restoreAll (rt.env "sha-256") payload strs = .ok (c, ps)) :
    Holder.presentation rt (assemble jwt strs) = .ok { sdJwt := jwt, paths := ps } ∧
    Holder.build rt { sdJwt := jwt, paths := ps } R none nonce now =
      .ok (assemble jwt (keptDisclosures ps R), none) := by
  have hparts := sdJwtParts_assemble jwt strs hj hs
  have hstrs : (strs.map (·.toList)).map strOf = strs := by
    simp [List.map_map, Function.comp_def, strOf, String.ofList_toList]
  have hpart : getJwtPart jwt.toList .claims = .ok b := by simp [getJwtPart, hseg]
  have hclaims' : rt.decodeClaims (String.ofList b) = some payload := hclaims
  have hstrs' : List.map (strOf ∘ fun x : String => x.toList) strs = strs := by
    rw [← List.map_map]; exact hstrs
  constructor
  · simp [Holder.presentation, hparts, hpart, hclaims', halg, parseHashAlg, hstrs', hr, strOf,
      String.ofList_toList]
  · simp [Holder.build, hpart, hclaims', hcnf, strOf]

end Impl
