import SdJwt.Lemmas.Prepass
import SdJwt.Lemmas.Hidden
import SdJwt.Lemmas.RestoreAll
/-! T-restore, acceptance: own disclosures of a conformant tree, pairwise different, in any order,
are accepted. -/
open Assoc Spec
namespace Impl

/-- the marked nodes that the disclosures `L` disclose, in the order of `L` -/
theorem pairs_exist (H : List (String × MJ)) : (L : List Disc) →
    (∀ d ∈ L, ∃ x, (d.digest, x) ∈ H ∧ d.value = x.payload) →
    ∃ E : List (String × MJ), (∀ e ∈ E, e ∈ H) ∧ E.map (·.1) = L.map (·.digest) ∧
      E.map (·.2.payload) = L.map (·.value)
  | [], _ => ⟨[], nofun, rfl, rfl⟩
  | d :: L, h => by
    obtain ⟨x, hx, hv⟩ := h d (.head _)
    obtain ⟨E, hs, hm, hp⟩ := pairs_exist H L fun d' hd' => h d' (.tail _ hd')
    exact ⟨(d.digest, x) :: E, List.forall_mem_cons.mpr ⟨hx, hs⟩, by simp [hm], by simp [hp, hv]⟩

/-- the validating pre-pass finds no defect in the payload of a conformant tree and the values of
own disclosures with pairwise different digests, and every embedded digest once: every digest of
the tree is visible in exactly one place -/
theorem prepass_ok (T : MJ) (inv : TreeInv T) (L : List Disc) (hdist : Distinct L)
    (hown : ∀ d ∈ L, ∃ x, (d.digest, x) ∈ T.hiddenE ∧ d.value = x.payload) :
    (hasBadSd T.payload = false ∧ hasBadPlaceholder T.payload = false ∧
      ∀ d ∈ L, hasBadSd d.value = false ∧ hasBadPlaceholder d.value = false) ∧
    (embedded T.payload ++ embeddedValues L).Nodup := by
  have hview : ∀ e ∈ T.hiddenE, _ := fun e he => MJ.prepass_view e.2 (MJ.hiddenE_wf T inv.wf e he)
  obtain ⟨h1, h2, h3⟩ := MJ.prepass_view T inv.wf
  refine ⟨⟨h2, h3, fun d hd => ?_⟩, ?_⟩
  · obtain ⟨x, hx, hv⟩ := hown d hd
    exact hv ▸ (hview _ hx).2
  · obtain ⟨E, hsub, hmap, hpay⟩ := pairs_exist T.hiddenE L hown
    have hvals : embeddedValues L = hiddenFlat E := by
      have := congrArg (List.map embedded) hpay
      simp only [List.map_map] at this
      exact congrArg List.flatten
        (this.symm.trans (List.map_congr_left fun e he => (hview e (hsub e he)).1))
    rw [MJ.payload, h1, hvals]
    exact nodup_select T.vdigests E T.hiddenE (MJ.hiddenE_fst T ▸ inv.ndm) hsub
      (hmap ▸ List.pairwise_map.mpr hdist) (MJ.nodup_visible_hidden T inv.nd)

/-- **T-restore, acceptance.** Own disclosures of a conformant tree (decoded, pairwise different
digests, each acceptable) are accepted whatever their order — nested ones before or after the
enclosing ones —, the claims strip to the projection, and the reported paths are those of the
tree. -/
theorem restoreDecoded_paths (T : MJ) (inv : TreeInv T) (L : List Disc) (hdist : Distinct L)
    (hok : ∀ d ∈ L, DOk T d)
    (hown : ∀ d ∈ L, ∃ x, (d.digest, x) ∈ T.hiddenE ∧ d.value = x.payload) :
    ∃ c ps, restoreDecoded T.payload L = .ok (c, ps) ∧
      removeAll c = T.project (fun h => L.any (fun d => d.digest = h)) ∧ PathsOK T L ps := by
  obtain ⟨c, ps, hr, hp⟩ := rounds_project T L inv hok hdist
  obtain ⟨c', ps', hr', hpaths⟩ := rounds_paths T L inv hok hdist
  cases hr.symm.trans hr'
  obtain ⟨hc, hn⟩ := prepass_ok T inv L hdist hown
  exact ⟨c, ps, restoreDecoded_ok_iff.mpr ⟨hc, hn, hr⟩, hp, hpaths⟩

theorem decodeAll_complete (env : Env) : (ss : List String) → (acc : List Disc) →
    (∀ s ∈ ss, ∃ d, fromBase64 env s = .ok d) →
    (∀ s ∈ ss, ∀ a ∈ acc, a.digest ≠ env.hash s) → (ss.map env.hash).Nodup →
    ∃ ds, decodeAll env ss acc = .ok ds
  | [], acc, _, _, _ => ⟨acc.reverse, rfl⟩
  | s :: r, acc, hdec, hacc, hnd => by
    obtain ⟨d, hd⟩ := hdec s (.head _)
    have hdig := fromBase64_digest env s d hd
    obtain ⟨hs, hnd⟩ := List.nodup_cons.mp hnd
    obtain ⟨ds, h⟩ := decodeAll_complete env r (d :: acc) (fun s' hs' => hdec s' (.tail _ hs'))
      (fun s' hs' a ha => by
        rcases List.mem_cons.mp ha with rfl | ha
        · exact hdig ▸ fun e => hs (e ▸ List.mem_map_of_mem hs')
        · exact hacc s' (.tail _ hs') a ha) hnd
    exact ⟨ds, decodeAll_cons_ok.mpr ⟨d, hd, by simpa [hdig] using hacc s (.head _), h⟩⟩

/-- **T-restore, acceptance, claims and paths, from the presented strings.** -/
theorem restoreAll_paths (env : Env) (T : MJ) (strs : List String) (inv : TreeInv T)
    (hdec : ∀ s ∈ strs, ∃ d, fromBase64 env s = .ok d)
    (hnd : (strs.map env.hash).Nodup)
    (hacc : ∀ s ∈ strs, ∀ d, fromBase64 env s = .ok d →
      DOk T d ∧ ∃ x, (d.digest, x) ∈ T.hiddenE ∧ d.value = x.payload) :
    ∃ c ps L, restoreAll env T.payload strs = .ok (c, ps) ∧
      removeAll c = T.project (fun h => strs.any (fun s => env.hash s = h)) ∧
      (∀ d ∈ L, ∃ s ∈ strs, fromBase64 env s = .ok d) ∧
      (∀ s ∈ strs, ∃ d ∈ L, fromBase64 env s = .ok d) ∧ PathsOK T L ps := by
  obtain ⟨L, hL⟩ := decodeAll_complete env strs [] hdec (fun _ _ _ => nofun) hnd
  obtain ⟨hdist, hfrom, hto⟩ := decodeAll_nil_ok hL
  have hprops : ∀ d ∈ L, DOk T d ∧ ∃ x, (d.digest, x) ∈ T.hiddenE ∧ d.value = x.payload :=
    fun d hd => have ⟨s, hs, hf⟩ := hfrom d hd; hacc s hs d hf
  obtain ⟨c, ps, hr, hp, hpaths⟩ := restoreDecoded_paths T inv L hdist (fun d hd => (hprops d hd).1)
    (fun d hd => (hprops d hd).2)
  exact ⟨c, ps, L, restoreAll_ok_iff.mpr ⟨L, hL, hr⟩, decodeAll_selector hL ▸ hp, hfrom, hto, hpaths⟩

/-- **T-restore, acceptance, from the presented strings.** -/
theorem restoreAll_complete (env : Env) (T : MJ) (strs : List String) (inv : TreeInv T)
    (hdec : ∀ s ∈ strs, ∃ d, fromBase64 env s = .ok d)
    (hnd : (strs.map env.hash).Nodup)
    (hacc : ∀ s ∈ strs, ∀ d, fromBase64 env s = .ok d →
      DOk T d ∧ ∃ x, (d.digest, x) ∈ T.hiddenE ∧ d.value = x.payload) :
    ∃ c ps, restoreAll env T.payload strs = .ok (c, ps) ∧
      removeAll c = T.project (fun h => strs.any (fun s => env.hash s = h)) :=
  have ⟨c, ps, _, h, hp, _⟩ := restoreAll_paths env T strs inv hdec hnd hacc
  ⟨c, ps, h, hp⟩

end Impl
