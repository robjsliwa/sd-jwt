import SdJwt.Lemmas.Finish
import SdJwt.Lemmas.Wire
/-!
# Issuer → wire → holder, in one statement

`Holder.verify` applied to the serialisation of what `encode` produced returns the header, the
original claims (plus `cnf` for a bound token) and a path list.  Everything below the JSON level
is the runtime record `Rt`; the only thing assumed of it is that the JWT library returns the
header and payload that were signed, and that each disclosure string decodes to the disclosure it
was made from and hashes to its digest.
-/
open Assoc Spec
namespace Impl

/-- an assembled presentation without key binding splits into exactly its parts -/
theorem sdJwtParts_assemble (jwt : String) (strs : List String) (hj : '~' ∉ jwt.toList)
    (hs : ∀ s ∈ strs, '~' ∉ s.toList) :
    sdJwtParts (assemble jwt strs).toList =
      .ok { jwt := jwt.toList, disclosures := strs.map (·.toList), kb := none } := by
  have h := sdJwtParts_presentation jwt strs "" hj hs (by simp)
  rwa [String.append_empty] at h

/-! ### `remove_digests` -/

/-- drop a top-level `_sd_alg` member -/
def dropAlg : J → J
  | .obj l => .obj (adel "_sd_alg" l)
  | j => j

theorem removeDigests_eq (c : J) : removeDigests c = dropAlg (removeAll c) := by
  cases c with
  | obj ms => rw [removeDigests_obj]; simp [removeAll, dropAlg]
  | arr xs => simp [removeDigests, removeAll, dropAlg]
  | null => simp [removeDigests, removeAll, dropAlg]
  | bool b => simp [removeDigests, removeAll, dropAlg]
  | num m e => simp [removeDigests, removeAll, dropAlg]
  | str s => simp [removeDigests, removeAll, dropAlg]

theorem sorted_projectS (S : String → Bool) : (ms : MMems) → ms.WF → Sorted (ms.project S)
  | .nil, _ => trivial
  | .clear k x r, wf => by
    simp only [MMems.WF] at wf
    exact ⟨keysGt_project S k r wf.2.2.2.1, sorted_projectS S r wf.2.2.2.2⟩
  | .marked k dg x r, wf => by
    simp only [MMems.WF] at wf
    simp only [MMems.project]
    split
    · exact ⟨keysGt_project S k r wf.2.2.2.1, sorted_projectS S r wf.2.2.2.2⟩
    · exact sorted_projectS S r wf.2.2.2.2

theorem aget_project_none (S : String → Bool) (k : String) : (ms : MMems) → k ∉ ms.keys →
    aget k (ms.project S) = none
  | .nil, _ => rfl
  | .clear k' x r, h => by
    simp only [MMems.keys, List.mem_cons, not_or] at h
    simp [MMems.project, aget, h.1, aget_project_none S k r h.2]
  | .marked k' dg x r, h => by
    simp only [MMems.keys, List.mem_cons, not_or] at h
    simp only [MMems.project]
    split
    · simp [aget, h.1, aget_project_none S k r h.2]
    · exact aget_project_none S k r h.2

theorem aget_hview_none (S : String → Bool) (k : String) : (ms : MMems) → k ∉ ms.keys →
    aget k (ms.hview S) = none
  | .nil, _ => rfl
  | .clear k' x r, h => by
    simp only [MMems.keys, List.mem_cons, not_or] at h
    simp [MMems.hview, aget, h.1, aget_hview_none S k r h.2]
  | .marked k' dg x r, h => by
    simp only [MMems.keys, List.mem_cons, not_or] at h
    simp only [MMems.hview]
    split
    · simp [aget, h.1, aget_hview_none S k r h.2]
    · exact aget_hview_none S k r h.2

theorem aget_hview_clear (S : String → Bool) (k : String) (x : MJ) :
    (ms : MMems) → ms.WF → k ∉ ms.keys → aget k ((ms.insClear k x).hview S) = some (x.hview S) := by
  intro ms wf hk
  rw [hview_insClear S k x ms wf hk, aget_ains_self]

end Impl

namespace Impl

/-- the claims a holder expects back: the original members, plus `cnf` for a bound token -/
def expectedClaims (ms : MMems) (cnf : Option MJ) : J :=
  match cnf with
  | none => .obj (ms.project (fun _ => true))
  | some X => .obj (ains "cnf" X.plain (ms.project (fun _ => true)))

theorem project_plain_of_no_marks (S : String → Bool) (x : MJ) (h : x.allMarks = []) :
    x.project S = x.plain := by
  apply MJ.project_congr
  intro g hg
  simp [h] at hg

/-- the members after `cnf` has been set (if it is) -/
def cnfIns (cnf : Option MJ) (S : String → Bool) (l : List (String × J)) : List (String × J) :=
  match cnf with
  | none => l
  | some X => ains "cnf" (X.project S) l

theorem expected_eq (ms : MMems) (cnf : Option MJ) (S : String → Bool)
    (hX : ∀ X, cnf = some X → X.WF ∧ X.digests = []) :
    J.obj (cnfIns cnf S (ms.project (fun _ => true))) = expectedClaims ms cnf := by
  cases cnf with
  | none => rfl
  | some X =>
    obtain ⟨hXwf, hXd⟩ := hX X rfl
    simp [cnfIns, expectedClaims, project_plain_of_no_marks _ X (no_digests X hXwf hXd).1]

/-- step 1 of the tail: decoys -/
theorem finish_step1 (msn : MMems) (sdn : Option (List String)) (decoys : Option (List String))
    (invn : TreeInv (.obj msn sdn))
    (hdec : ∀ l, decoys = some l → l.Nodup ∧ (∀ g ∈ l, g ∉ (MJ.obj msn sdn).digests)) :
    ∃ sd1, decoyed (.obj msn sdn) decoys = MJ.obj msn sd1 ∧ TreeInv (.obj msn sd1) ∧
      (∀ g ∈ (MJ.obj msn sd1).deepStale, g ∈ (MJ.obj msn sdn).deepStale ∨ g ∈ decoys.getD []) := by
  cases decoys with
  | none => exact ⟨sdn, rfl, invn, fun g hg => .inl hg⟩
  | some l =>
    obtain ⟨hl1, hl2⟩ := hdec l rfl
    obtain ⟨i1, i2⟩ := withDecoys_inv msn sdn l invn hl1 hl2
    exact ⟨some (sdn.getD [] ++ l), rfl, i1, by simpa using i2⟩

/-- steps 2 and 3 of the tail: `_sd_alg`, `cnf` -/
theorem finish_step23 (msn : MMems) (sdn sd1 : Option (List String)) (decoys : Option (List String))
    (cnf : Option MJ) (wfn : msn.WF) (inv1 : TreeInv (.obj msn sd1))
    (hT1 : decoyed (.obj msn sdn) decoys = MJ.obj msn sd1)
    (hk1n : "_sd_alg" ∉ msn.keys) (hk2n : "cnf" ∉ msn.keys)
    (hX : ∀ X, cnf = some X → X.WF ∧ X.digests = []) :
    ∃ msF, finish (.obj msn sdn) decoys true cnf = .obj msF sd1 ∧ TreeInv (.obj msF sd1) ∧
      (MJ.obj msF sd1).discs = (MJ.obj msn sd1).discs ∧
      (MJ.obj msF sd1).allMarks = (MJ.obj msn sd1).allMarks ∧
      (MJ.obj msF sd1).deepStale = (MJ.obj msn sd1).deepStale ∧
      aget "_sd_alg" (msF.hview (fun _ => false)) = some (.str "sha-256") ∧
      (∀ S : String → Bool, adel "_sd_alg" (msF.project S) = cnfIns cnf S (msn.project S)) ∧
      msF.paths "" = msn.paths "" ∧
      aget "cnf" (msF.hview (fun _ => false)) = cnf.map (·.payload) := by
  let alg : MJ := .leaf (.str "sha-256")
  have halgwf : alg.WF := by simp [alg, MJ.WF, J.scalar]
  obtain ⟨inv2, hdiscs2, hmarks2, hst2, _⟩ :=
    insTop_inv msn sd1 "_sd_alg" alg inv1 hk1n (by decide) (by decide) halgwf rfl
  have wf2 : (msn.insClear "_sd_alg" alg).WF := by have := inv2.wf; simp only [MJ.WF] at this; exact this.1
  have hk3 : "cnf" ∉ (msn.insClear "_sd_alg" alg).keys := by
    rw [mem_keys_insClear]
    intro hh
    rcases hh with hh | hh
    · exact absurd hh (by decide)
    · exact hk2n hh
  have hdel : ∀ S : String → Bool,
      adel "_sd_alg" (ains "_sd_alg" (alg.project S) (msn.project S)) = msn.project S :=
    fun S => adel_ains _ (aget_project_none S "_sd_alg" msn hk1n)
  cases cnf with
  | none =>
    refine ⟨msn.insClear "_sd_alg" alg, ?_, inv2, hdiscs2, hmarks2, hst2, ?_, ?_,
      paths_insClear "_sd_alg" alg "" rfl msn, ?_⟩
    rotate_right
    · rw [hview_insClear _ "_sd_alg" alg msn wfn hk1n, aget_ains_ne _ (by decide)]
      exact aget_hview_none _ "cnf" msn hk2n
    · simp only [finish, hT1, if_true, MJ.insTop, cnfTop]; rfl
    · exact aget_hview_clear _ "_sd_alg" alg msn wfn hk1n
    · intro S
      rw [project_insClear S "_sd_alg" alg msn wfn hk1n]
      exact hdel S
  | some X =>
    obtain ⟨hXwf, hXd⟩ := hX X rfl
    obtain ⟨inv3, hdiscs3, hmarks3, hst3, _⟩ :=
      insTop_inv (msn.insClear "_sd_alg" alg) sd1 "cnf" X inv2 hk3 (by decide) (by decide) hXwf hXd
    refine ⟨(msn.insClear "_sd_alg" alg).insClear "cnf" X, ?_, inv3,
      hdiscs3.trans hdiscs2, hmarks3.trans hmarks2, hst3.trans hst2, ?_, ?_,
      (paths_insClear "cnf" X "" (no_digests X hXwf hXd).1 _).trans (paths_insClear "_sd_alg" alg "" rfl msn),
      by rw [hview_insClear _ "cnf" X _ wf2 hk3, aget_ains_self]; rfl⟩
    · simp only [finish, hT1, if_true, MJ.insTop, cnfTop]; rfl
    · rw [hview_insClear _ "cnf" X _ wf2 hk3, aget_ains_ne _ (by decide)]
      exact aget_hview_clear _ "_sd_alg" alg msn wfn hk1n
    · intro S
      rw [project_insClear S "cnf" X _ wf2 hk3, project_insClear S "_sd_alg" alg msn wfn hk1n,
        adel_ains_ne "_sd_alg" "cnf" _ _ (sorted_ains _ _ _ (sorted_projectS S msn wfn)) (by decide),
        hdel S]
      rfl

/-- what the end-to-end theorems assume on the issuer's side: plain claims that do not use the
names `_sd_alg` / `cnf`, parsed paths under which marking is defined and makes a disclosure, decoy
digests that are distinct and new, a holder key that is a plain value -/
structure Issued (mk : Nat → Option String → J → String) (paths : List String)
    (addr : List (List String × String)) (ms : MMems) (Tn : MJ) (ds : List SDisc)
    (decoys : Option (List String)) (cnf : Option MJ) : Prop where
  wf : (MJ.obj ms none).WF
  plain : (MJ.obj ms none).digests = []
  noAlg : "_sd_alg" ∉ ms.keys
  noCnf : "cnf" ∉ ms.keys
  parsed : ParsedAll paths addr
  marked : markAll mk 0 addr (.obj ms none) = some (Tn, ds)
  nonempty : ds ≠ []
  fresh : ∀ l, decoys = some l → l.Nodup ∧ (∀ g ∈ l, g ∉ Tn.digests)
  key : ∀ X, cnf = some X → X.WF ∧ X.digests = []

/-- a conformant tree without digests satisfies the restorer's invariant -/
theorem TreeInv.of_plain {T : MJ} (wf : T.WF) (hd : T.digests = []) : TreeInv T :=
  ⟨wf, hd ▸ List.nodup_nil, (no_digests T wf hd).1 ▸ List.nodup_nil⟩

namespace Issued
variable {mk : Nat → Option String → J → String} {paths : List String}
  {addr : List (List String × String)} {ms : MMems} {Tn : MJ} {ds : List SDisc}
  {decoys : Option (List String)} {cnf : Option MJ} (I : Issued mk paths addr ms Tn ds decoys cnf)
include I

theorem inv : TreeInv Tn := (markAll_inv mk addr 0 _ Tn ds (.of_plain I.wf I.plain) I.marked).1

/-- the marks of the issued tree are the digests of the issuer's disclosures -/
theorem mem_marks {g : String} : g ∈ Tn.allMarks ↔ ∃ e ∈ ds, e.digest = g := by
  have pm := (markAll_inv mk addr 0 _ Tn ds (.of_plain I.wf I.plain) I.marked).2.2.1
  rw [(no_digests _ I.wf I.plain).1, List.append_nil] at pm
  rw [pm.mem_iff, List.mem_map]

/-- with every disclosure presented the projection is the original claims -/
theorem project_all {S : String → Bool} (hall : ∀ e ∈ ds, S e.digest = true) :
    ∃ msn sdn, Tn = .obj msn sdn ∧ msn.project S = ms.project (fun _ => true) := by
  have h1 : Tn.project S = Tn.plain := MJ.project_congr _ _ _ (fun g hg => by
    obtain ⟨e, he, rfl⟩ := I.mem_marks.mp hg
    simpa using hall e he)
  rw [markAll_plain mk addr 0 _ Tn ds I.marked] at h1
  obtain ⟨msn, sdn, rfl⟩ := MJ.eq_obj_of_isObj Tn (by rw [(markAll_top mk addr 0 _ Tn ds I.marked).1]; rfl)
  exact ⟨msn, sdn, rfl, by simpa [MJ.project, MJ.plain] using h1⟩

/-- **What issuing establishes**, for ANY selection `strs` of the issuer's disclosures in any
order: the issuer's payload is that of the finished tree `F`, a conformant object that declares
`sha-256` and carries `cnf`; the restorer accepts the selection on it, and what it returns strips
to the issued claims projected on the selection (plus `cnf`). -/
theorem restore (env : Env) (strs : List String)
    (hstr : ∀ s ∈ strs, ∃ e ∈ ds, fromBase64 env s = .ok ⟨s, e.digest, e.key, e.value⟩)
    (hnd : (strs.map env.hash).Nodup) :
    ∃ msn sdn F c ps L, Tn = .obj msn sdn ∧
      encode (MJ.obj ms none).payload paths mk decoys (cnf.map (·.payload)) = .ok (F.payload, ds.map toSrc) ∧
      (jidx F.payload "_sd_alg").asStr = some "sha-256" ∧
      jidx F.payload "cnf" = (cnf.map (·.payload)).getD .null ∧
      restoreAll env F.payload strs = .ok (c, ps) ∧
      removeDigests c = .obj (cnfIns cnf (fun g => strs.any fun s => decide (env.hash s = g))
        (msn.project (fun g => strs.any fun s => decide (env.hash s = g)))) ∧
      (∀ d ∈ L, ∃ s ∈ strs, fromBase64 env s = .ok d) ∧
      (∀ s ∈ strs, ∃ d ∈ L, fromBase64 env s = .ok d) ∧
      PathsOK F L ps ∧ F.paths "" = Tn.paths "" ∧ F.allMarks = Tn.allMarks := by
  obtain ⟨invn, hst, _, pdi, _⟩ := markAll_inv mk addr 0 _ Tn ds (.of_plain I.wf I.plain) I.marked
  obtain ⟨hobj, hkeys⟩ := markAll_top mk addr 0 _ Tn ds I.marked
  have henc := encode_tree mk paths addr ms none Tn ds decoys cnf I.wf I.parsed I.marked I.noAlg I.noCnf
  obtain ⟨msn, sdn, rfl⟩ := MJ.eq_obj_of_isObj Tn (by rw [hobj]; rfl)
  simp only [MJ.topKeys] at hkeys
  rw [show (!ds.isEmpty) = true by cases ds with | nil => exact absurd rfl I.nonempty | cons _ _ => rfl] at henc
  have wfn := invn.wf
  simp only [MJ.WF] at wfn
  obtain ⟨sd1, hT1, inv1, hst1⟩ := finish_step1 msn sdn decoys invn I.fresh
  obtain ⟨msF, hF, invF, hdiscsF, hmarksF, hstF, halgF, hprojF, hpathsF, hcnfF⟩ :=
    finish_step23 msn sdn sd1 decoys cnf wfn.1 inv1 hT1 (hkeys ▸ I.noAlg) (hkeys ▸ I.noCnf) I.key
  -- the issuer's own disclosures are disclosures of `F`, and none of their digests is stale there:
  -- marking makes nothing stale, and the decoys are new
  have hown : ∀ s ∈ strs, ∃ e ∈ (MJ.obj msF sd1).discs, e.digest ∉ (MJ.obj msF sd1).deepStale ∧
      fromBase64 env s = .ok ⟨s, e.digest, e.key, e.value⟩ := by
    intro s hs'
    obtain ⟨e, he, hf⟩ := hstr s hs'
    have hein : e ∈ (MJ.obj msn sdn).discs := pdi.symm.subset (by simp [he])
    refine ⟨e, hdiscsF ▸ hein, fun hh => ?_, hf⟩
    rcases hst1 _ (hstF ▸ hh) with h1 | h1
    · exact absurd (hst _ h1) (by rw [(no_digests _ I.wf I.plain).2.2]; exact List.not_mem_nil)
    · cases decoys with
      | none => simp at h1
      | some l =>
        exact (I.fresh l rfl).2 _ h1 (MJ.allMarks_sub_digests _ invn.wf _
          (I.mem_marks.mpr ⟨e, he, rfl⟩))
  obtain ⟨c, ps, L, hr, hc, hLfrom, hLto, hpok⟩ := restore_own_paths env (.obj msF sd1) invF strs hown hnd
  have hidx : ∀ k, k ≠ "_sd" → jidx (MJ.obj msF sd1).payload k = (aget k (msF.hview fun _ => false)).getD .null :=
    fun k hk => by simp only [MJ.payload, MJ.hview, jidx, aget_withSd_ne sd1 k _ hk]
  refine ⟨msn, sdn, _, c, ps, L, rfl, hF ▸ henc, ?_, ?_, hr, ?_, hLfrom, hLto, hpok, ?_, hmarksF⟩
  · rw [hidx _ (by decide), halgF]; rfl
  · rw [hidx _ (by decide), hcnfF]
  · rw [removeDigests_eq, hc]
    simp only [MJ.project, dropAlg, hprojF]
  · simp [MJ.paths, hpathsF]

end Issued

/-- **Issuer → wire → holder.** -/
theorem holder_verify_issued (rt : Rt) (mk : Nat → Option String → J → String)
    (paths : List String) (addr : List (List String × String)) (ms : MMems) (Tn : MJ)
    (ds : List SDisc) (decoys : Option (List String)) (cnf : Option MJ) (jwt : String) (header : J)
    (strs : List String)
    (wf : (MJ.obj ms none).WF) (hplain : (MJ.obj ms none).digests = [])
    (hk1 : "_sd_alg" ∉ ms.keys) (hk2 : "cnf" ∉ ms.keys)
    (hp : ParsedAll paths addr) (h : markAll mk 0 addr (.obj ms none) = some (Tn, ds)) (hne : ds ≠ [])
    (hdec : ∀ l, decoys = some l → l.Nodup ∧ (∀ g ∈ l, g ∉ Tn.digests))
    (hX : ∀ X, cnf = some X → X.WF ∧ X.digests = [])
    (hsig : ∀ payload dsrc,
      encode (MJ.obj ms none).payload paths mk decoys (cnf.map (·.payload)) = .ok (payload, dsrc) →
      rt.jwtDecode jwt = .ok (header, payload))
    (hstr : ∀ s ∈ strs, ∃ e ∈ ds,
      fromBase64 (rt.env "sha-256") s = .ok ⟨s, e.digest, e.key, e.value⟩)
    (hnd : (strs.map (rt.hash "sha-256")).Nodup)
    (hall : ∀ e ∈ ds, ∃ s ∈ strs, rt.hash "sha-256" s = e.digest)
    (hj : '~' ∉ jwt.toList) (hs : ∀ s ∈ strs, '~' ∉ s.toList) :
    ∃ ps, Holder.verify rt (assemble jwt strs) = .ok (header, expectedClaims ms cnf, ps) ∧
      (ps.map (fun e => (e.1, e.2.digest))).Perm (Tn.paths "") ∧
      (∀ e ∈ ps, ∃ s ∈ strs, fromBase64 (rt.env "sha-256") s = .ok e.2) := by
  have I : Issued mk paths addr ms Tn ds decoys cnf := ⟨wf, hplain, hk1, hk2, hp, h, hne, hdec, hX⟩
  obtain ⟨msn, sdn, F, c, ps, L, rfl, henc, halg, _, hr, hc, hLfrom, hLto, hpok, hpaths, hmarks⟩ :=
    I.restore (rt.env "sha-256") strs hstr hnd
  refine ⟨ps, ?_, ?_, fun e he => hLfrom e.2 (hpok.sound e he).2⟩
  · obtain ⟨_, _, e, hproj⟩ := I.project_all
      (S := fun g => strs.any fun s => decide (rt.hash "sha-256" s = g)) (fun e he => by simpa using hall e he)
    cases e
    rw [Holder.verify_assemble rt jwt strs header _ c _ _ ps hj hs (hsig _ _ henc) halg rfl hr, hc]
    exact congrArg (fun x => Outcome.ok (header, x, ps)) (hproj ▸ expected_eq ms cnf _ hX)
  · rw [← hpaths]
    refine hpok.all fun g hg => ?_
    obtain ⟨e, he, rfl⟩ := I.mem_marks.mp (hmarks ▸ hg)
    obtain ⟨s, hs', hh⟩ := hall e he
    obtain ⟨d, hd, hf⟩ := hLto s hs'
    exact ⟨d, hd, by rw [fromBase64_digest _ s d hf]; exact hh⟩

/-- **Issuer → any selection → wire → verifier** (unbound token).  For ANY selection `kept` of the
issuer's disclosures, in any order: the verifier accepts `jwt~kept…~` under either key-binding
policy and returns the header and the issued claims with exactly those marked nodes present
whose own and enclosing disclosures were kept. -/
theorem verifier_verify_issued (rt : Rt) (mk : Nat → Option String → J → String)
    (paths : List String) (addr : List (List String × String)) (ms : MMems) (Tn : MJ)
    (ds : List SDisc) (decoys : Option (List String)) (jwt : String) (header : J)
    (kept : List String) (policy : Bool)
    (wf : (MJ.obj ms none).WF) (hplain : (MJ.obj ms none).digests = [])
    (hk1 : "_sd_alg" ∉ ms.keys) (hk2 : "cnf" ∉ ms.keys)
    (hp : ParsedAll paths addr) (h : markAll mk 0 addr (.obj ms none) = some (Tn, ds)) (hne : ds ≠ [])
    (hdec : ∀ l, decoys = some l → l.Nodup ∧ (∀ g ∈ l, g ∉ Tn.digests))
    (hsig : ∀ payload dsrc,
      encode (MJ.obj ms none).payload paths mk decoys none = .ok (payload, dsrc) →
      rt.jwtDecode jwt = .ok (header, payload))
    (hstr : ∀ s ∈ kept, ∃ e ∈ ds,
      fromBase64 (rt.env "sha-256") s = .ok ⟨s, e.digest, e.key, e.value⟩)
    (hnd : (kept.map (rt.hash "sha-256")).Nodup)
    (hj : '~' ∉ jwt.toList) (hs : ∀ s ∈ kept, '~' ∉ s.toList) :
    Verifier.verify rt (assemble jwt kept) policy =
      .ok (header, Tn.project (fun g => kept.any fun s => decide (rt.hash "sha-256" s = g))) := by
  have I : Issued mk paths addr ms Tn ds decoys none := ⟨wf, hplain, hk1, hk2, hp, h, hne, hdec, by simp⟩
  obtain ⟨msn, sdn, F, c, ps, L, rfl, henc, halg, hcnf, hr, hc, _⟩ := I.restore (rt.env "sha-256") kept hstr hnd
  rw [Verifier.verify_assemble rt jwt kept header _ c _ _ ps hj hs (hsig _ _ henc) halg rfl hr policy
    (by rw [hcnf]; rfl), hc]
  rfl

end Impl

namespace Impl

/-- **Issuer → any selection → wire → verifier, bound token.**  The token is bound to the key
`X`; the presentation ends with a key-binding JWT `kb` which the JWT library accepts under `X`
(`kbDecode`), typed `kb+jwt`, whose `sd_hash` is the hash of the presentation up to and including
its last `~`.  Then the verifier (with a key-binding policy) accepts and returns the header and
the issued claims, projected on the selection, plus `cnf`. -/
theorem verifier_verify_issued_bound (rt : Rt) (mk : Nat → Option String → J → String)
    (paths : List String) (addr : List (List String × String)) (ms : MMems) (Tn : MJ)
    (ds : List SDisc) (decoys : Option (List String)) (X : MJ) (jwt : String) (header : J)
    (kept : List String) (kb : String) (kh kc : J)
    (wf : (MJ.obj ms none).WF) (hplain : (MJ.obj ms none).digests = [])
    (hk1 : "_sd_alg" ∉ ms.keys) (hk2 : "cnf" ∉ ms.keys)
    (hp : ParsedAll paths addr) (h : markAll mk 0 addr (.obj ms none) = some (Tn, ds)) (hne : ds ≠ [])
    (hdec : ∀ l, decoys = some l → l.Nodup ∧ (∀ g ∈ l, g ∉ Tn.digests))
    (hX : X.WF ∧ X.digests = [])
    (hsig : ∀ payload dsrc,
      encode (MJ.obj ms none).payload paths mk decoys (some X.payload) = .ok (payload, dsrc) →
      rt.jwtDecode jwt = .ok (header, payload))
    (hstr : ∀ s ∈ kept, ∃ e ∈ ds,
      fromBase64 (rt.env "sha-256") s = .ok ⟨s, e.digest, e.key, e.value⟩)
    (hnd : (kept.map (rt.hash "sha-256")).Nodup)
    (hj : '~' ∉ jwt.toList) (hs : ∀ s ∈ kept, '~' ∉ s.toList)
    (hkb : '~' ∉ kb.toList) (hkbne : kb.toList ≠ [])
    (hkty : (jidx X.payload "kty").asStr = some "RSA")
    (he : (jidx X.payload "e").asStr.isSome = true) (hn : (jidx X.payload "n").asStr.isSome = true)
    (hkbdec : rt.kbDecode kb X.payload = .ok (kh, kc))
    (htyp : (jidx kh "typ").asStr = some "kb+jwt")
    (hhash : (jidx kc "sd_hash").asStr = some (rt.hash "sha-256" (assemble jwt kept))) :
    ∃ msn sdn, Tn = .obj msn sdn ∧
      Verifier.verify rt (assemble jwt kept ++ kb) true =
        .ok (header, .obj (ains "cnf" (X.project (fun g => kept.any fun s => decide (rt.hash "sha-256" s = g)))
          (msn.project (fun g => kept.any fun s => decide (rt.hash "sha-256" s = g))))) := by
  have I : Issued mk paths addr ms Tn ds decoys (some X) :=
    ⟨wf, hplain, hk1, hk2, hp, h, hne, hdec, by intro X' hX'; cases hX'; exact hX⟩
  obtain ⟨msn, sdn, F, c, ps, L, rfl, henc, halg, hcnf, hr, hc, _⟩ := I.restore (rt.env "sha-256") kept hstr hnd
  refine ⟨msn, sdn, rfl, ?_⟩
  have hcnf' : jidx F.payload "cnf" = X.payload := hcnf
  have hvkb : verifyKb rt kb X.payload = .ok (kh, kc) :=
    (verifyKb_ok_iff ..).mpr ⟨hkty, Option.isSome_iff_ne_none.mp he, Option.isSome_iff_ne_none.mp hn, hkbdec, htyp⟩
  rw [Verifier.verify_assemble_kb rt jwt kept header _ c _ _ ps hj hs (hsig _ _ henc) halg rfl hr kb kh kc
    (hcnf' ▸ isNullJ_of_jidx hkty) hkb hkbne (hcnf' ▸ hvkb) hhash, hc]
  rfl

end Impl
