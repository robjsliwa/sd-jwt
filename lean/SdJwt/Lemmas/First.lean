import SdJwt.Impl.Flows
import SdJwt.Lemmas.Total
/-! `decode` comes first: helper lemmas for C04. -/
open Impl Assoc
namespace Impl

theorem holder_verifyRaw_err (rt : Rt) (tok : String)
    (h : ∀ jwt, ∃ e, rt.jwtDecode jwt = .err e) : ∃ e, Holder.verifyRaw rt tok = .err e := by
  unfold Holder.verifyRaw
  split
  · simp_all
  · exact ⟨_, rfl⟩
  · next parts _ =>
    obtain ⟨e, he⟩ := h (strOf parts.jwt)
    split <;> simp [he]

theorem verifier_verifyRaw_err (rt : Rt) (tok : String) (policy : Bool)
    (h : ∀ jwt, ∃ e, rt.jwtDecode jwt = .err e) : ∃ e, Verifier.verifyRaw rt tok policy = .err e := by
  unfold Verifier.verifyRaw
  split
  · simp_all
  · exact ⟨_, rfl⟩
  · next parts _ =>
    obtain ⟨e, he⟩ := h (strOf parts.jwt)
    simp [he]

end Impl
