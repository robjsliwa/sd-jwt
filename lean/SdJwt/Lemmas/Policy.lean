import SdJwt.Impl.Validation
/-! Helper lemmas for C11 / C04: builder algebra and the enforcement equivalence. -/
open Assoc
namespace Impl

/-- which setting a step names -/
inductive Field where
  | required | leeway | validateExp | aud | iss | sub | alg
  deriving DecidableEq, Repr

def Step.field : Step → Field
  | .withoutExpiry => .validateExp
  | .withAudience _ => .aud
  | .withIssuer _ => .iss
  | .withSubject _ => .sub
  | .withLeeway _ => .leeway
  | .withAlgorithm _ => .alg
  | .withRequiredClaim _ => .required

/-- projection of one field (into a common carrier, so that fields can be quantified over) -/
def proj (f : Field) (v : Validation) : (Option (List String)) × Nat × Bool × Option String × Alg :=
  match f with
  | .required => (v.required, 0, false, none, .RS256)
  | .leeway => (none, v.leeway, false, none, .RS256)
  | .validateExp => (none, 0, v.validateExp, none, .RS256)
  | .aud => (v.aud, 0, false, none, .RS256)
  | .iss => (none, 0, false, v.iss, .RS256)
  | .sub => (none, 0, false, v.sub, .RS256)
  | .alg => (none, 0, false, none, v.alg)

theorem proj_step_other (f : Field) (v : Validation) (s : Step) (h : s.field ≠ f) :
    proj f (v.step s) = proj f v := by
  cases s <;> cases f <;> first | rfl | exact absurd rfl h

/-- the new value of the setting a step names depends on the old value of that setting only -/
theorem proj_step_same (v w : Validation) (s : Step) (h : proj s.field v = proj s.field w) :
    proj s.field (v.step s) = proj s.field (w.step s) := by
  cases s <;> simp_all [proj, Validation.step, Step.field]

theorem proj_steps_filter (f : Field) : (ss : List Step) → (v w : Validation) → proj f v = proj f w →
    proj f (v.steps ss) = proj f (w.steps (ss.filter (fun s => s.field = f)))
  | [], _, _, h => h
  | s :: r, v, w, h => by
    by_cases hf : s.field = f
    · subst hf
      simpa [Validation.steps, List.filter_cons] using proj_steps_filter _ r _ _ (proj_step_same v w s h)
    · simpa [Validation.steps, List.filter_cons, hf] using
        proj_steps_filter f r _ w ((proj_step_other f v s hf).trans h)

theorem bind_ok_iff {α β : Type} (a : Outcome α) (f : α → Outcome β) (b : β) :
    a.bind f = .ok b ↔ ∃ x, a = .ok x ∧ f x = .ok b := by
  cases a <;> simp [Outcome.bind]

theorem bind_ok_unit (a b : Outcome Unit) :
    (a.bind fun _ => b) = .ok () ↔ a = .ok () ∧ b = .ok () := by
  cases a <;> simp [Outcome.bind]

theorem strStep_ok (claims : List (String × J)) (name : String) (expected : Option String) :
    strStep claims name expected = .ok () ↔
      ∀ e, expected = some e → (aget name claims).bind J.asStr = some e := by
  unfold strStep
  split <;> simp

theorem reqStep_ok (o : JwtOpts) (claims : List (String × J)) :
    reqStep o claims = .ok () ↔ ∀ l, o.required = some l → ∀ c ∈ l, (aget c claims).isSome = true := by
  unfold reqStep
  cases o.required <;> simp [List.all_eq_true, Option.isSome_iff_ne_none]

theorem audStep_ok (o : JwtOpts) (claims : List (String × J)) :
    audStep o claims = .ok () ↔ ∀ exp, o.audiences = some exp →
      (∃ a, aget "aud" claims = some (.str a) ∧ a ∈ exp) ∨
      (∃ xs, aget "aud" claims = some (.arr xs) ∧ ∃ a ∈ strList xs, a ∈ exp) := by
  unfold audStep
  split
  · simp_all
  · split <;> simp_all [List.any_eq_true]

theorem expStep_ok (o : JwtOpts) (claims : List (String × J)) (now : Nat)
    (hno : o.validateExp = true → ∀ ts, (aget "exp" claims).bind asU64 = some ts → ts + o.leeway < u64Max) :
    expStep o claims now = .ok () ↔
      (o.validateExp = true → ∃ ts, (aget "exp" claims).bind asU64 = some ts ∧ now ≤ ts + o.leeway) := by
  unfold expStep
  split
  · split
    · have := hno ‹_› _ ‹_›
      simp [*, Nat.not_le.mpr this]
    · simp [*]
  · simp [*]

theorem nbfStep_ok (o : JwtOpts) (claims : List (String × J)) (now : Nat)
    (hno : o.validateNbf = true → ∀ ts, (aget "nbf" claims).bind asU64 = some ts → o.leeway ≤ ts) :
    nbfStep o claims now = .ok () ↔
      (o.validateNbf = true → ∃ ts, (aget "nbf" claims).bind asU64 = some ts ∧ ts ≤ now + o.leeway) := by
  unfold nbfStep
  split
  · split
    · have := hno ‹_› _ ‹_›
      simp [*, Nat.not_lt.mpr this]
    · simp [*]
  · simp [*]

/-- the configured constraints, spelled out (the specification side) -/
structure Holds (v : Validation) (claims : List (String × J)) (now : Nat) : Prop where
  exp : v.validateExp = true → ∃ ts, (aget "exp" claims).bind asU64 = some ts ∧ now ≤ ts + v.leeway
  nbf : v.validateNbf = true → ∃ ts, (aget "nbf" claims).bind asU64 = some ts ∧ ts ≤ now + v.leeway
  iss : ∀ e, v.iss = some e → (aget "iss" claims).bind J.asStr = some e
  sub : ∀ e, v.sub = some e → (aget "sub" claims).bind J.asStr = some e
  aud : ∀ exp, v.aud = some exp →
    (∃ a, aget "aud" claims = some (.str a) ∧ a ∈ exp) ∨
    (∃ xs, aget "aud" claims = some (.arr xs) ∧ ∃ a ∈ strList xs, a ∈ exp)
  required : ∀ l, v.required = some l → ∀ c ∈ l, (aget c claims).isSome = true

/-- outside the overflow region of D21 -/
def NoOverflow (v : Validation) (claims : List (String × J)) : Prop :=
  (v.validateExp = true → ∀ ts, (aget "exp" claims).bind asU64 = some ts → ts + v.leeway < u64Max) ∧
  (v.validateNbf = true → ∀ ts, (aget "nbf" claims).bind asU64 = some ts → v.leeway ≤ ts)

/-- Every configured setting is enforced: the claims checks accept exactly when all configured
constraints hold (subject included — D13). -/
theorem validateClaims_ok_iff (v : Validation) (claims : List (String × J)) (now : Nat)
    (hno : NoOverflow v claims) :
    validateClaims (buildValidation v) claims now = .ok () ↔ Holds v claims now := by
  simp only [validateClaims, bind_ok_unit, expStep_ok (buildValidation v) claims now hno.1,
    nbfStep_ok (buildValidation v) claims now hno.2, strStep_ok, audStep_ok, reqStep_ok]
  exact ⟨fun ⟨h1, h2, h3, h4, h5, h6⟩ => ⟨h1, h2, h3, h4, h5, h6⟩,
    fun ⟨h1, h2, h3, h4, h5, h6⟩ => ⟨h1, h2, h3, h4, h5, h6⟩⟩

/-- the whole of `decode`: accepted iff the header names the configured algorithm, the key family
admits it and the signature primitive accepts, the payload is an object, and all configured
constraints hold. -/
theorem decodeDecision_ok_iff (v : Validation) (fam : KeyFam) (hdrAlg : JwtAlg) (sigOk : Bool)
    (claims : List (String × J)) (now : Nat) (hno : NoOverflow v claims) :
    decodeDecision v fam hdrAlg sigOk (.obj claims) now = .ok () ↔
      hdrAlg = toJwtAlgV v.alg ∧ famAllows fam hdrAlg = true ∧ sigOk = true ∧ Holds v claims now := by
  rw [← validateClaims_ok_iff v claims now hno]
  by_cases h1 : hdrAlg = toJwtAlgV v.alg <;> by_cases h2 : famAllows fam hdrAlg = true <;> cases sigOk <;>
    simp_all [decodeDecision, buildValidation]

/-- `decode` refuses unless algorithm, key family and signature primitive all agree -/
theorem decodeDecision_gate (v : Validation) (fam : KeyFam) (hdrAlg : JwtAlg) (sigOk : Bool)
    (payload : J) (now : Nat)
    (h : ¬ (hdrAlg = toJwtAlgV v.alg ∧ famAllows fam hdrAlg = true ∧ sigOk = true)) :
    decodeDecision v fam hdrAlg sigOk payload now = .err .jwt := by
  unfold decodeDecision
  by_cases h1 : hdrAlg = toJwtAlgV v.alg
  · subst h1; simp_all [buildValidation]
  · simp [buildValidation]
    intro e; exact absurd e h1

end Impl
