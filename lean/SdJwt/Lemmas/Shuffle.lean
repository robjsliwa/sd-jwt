import SdJwt.Lemmas.SdOrder
import SdJwt.Lemmas.View
import SdJwt.Impl.Restore
import SdJwt.Lemmas.Keys
/-!
# `shuffle_digests` in the model

`shuffleJ σ` is the issuer's `shuffle_digests` with the random permutation made a parameter: in every object
the `_sd` member, if it is an array, is replaced by `σ` of it, and every member value and every array element is visited
(the entries of an `_sd` list are visited before the list is permuted here, after it in the crate: for
the strings a digest list holds the visit changes nothing either way). `shuffle_payload`: applied to the payload of a conformant tree it yields the payload of a tree that
differs only in the order of the digest lists visible in the payload (`sdPermVis`) — whatever `σ` is, as
long as it returns a permutation of its argument.
-/
open Assoc Spec

namespace Impl

mutual
def shuffleJ (σ : List J → List J) : J → J
  | .obj ms => .obj (shuffleMems σ ms)
  | .arr xs => .arr (shuffleElems σ xs)
  | j => j
def shuffleMems (σ : List J → List J) : List (String × J) → List (String × J)
  | [] => []
  | (k, v) :: r =>
    (k, if k = "_sd" then
          (match v with
           | .arr xs => .arr (σ (shuffleElems σ xs))
           | other => shuffleJ σ other)
        else shuffleJ σ v) :: shuffleMems σ r
def shuffleElems (σ : List J → List J) : List J → List J
  | [] => []
  | x :: r => shuffleJ σ x :: shuffleElems σ r
end

theorem shuffleElems_strs (σ : List J → List J) : (ds : List String) → shuffleElems σ (ds.map .str) = ds.map .str
  | [] => rfl
  | d :: r => congrArg (J.str d :: ·) (shuffleElems_strs σ r)

theorem strsOf_map (ds : List String) : strsOf (ds.map .str) = ds := by
  induction ds with
  | nil => rfl
  | cons d r ih => simp [strsOf, ih]

theorem strsOf_eq_filterMap : (l : List J) → strsOf l = l.filterMap J.asStr
  | [] => rfl
  | x :: r => by cases x <;> simp [strsOf, J.asStr, List.filterMap_cons, strsOf_eq_filterMap r]

theorem map_strsOf_of_all_str : (l : List J) → (∀ x ∈ l, ∃ s, x = J.str s) → (strsOf l).map J.str = l
  | [], _ => rfl
  | x :: r, h => by
    obtain ⟨⟨s, rfl⟩, hr⟩ := List.forall_mem_cons.mp h
    simp [strsOf, map_strsOf_of_all_str r hr]

/-- a permutation of a list of strings is a list of strings: the same ones in another order -/
theorem perm_of_strs (l : List J) (ds : List String) (h : l.Perm (ds.map J.str)) :
    ∃ ds' : List String, l = ds'.map J.str ∧ ds'.Perm ds :=
  ⟨strsOf l,
    (map_strsOf_of_all_str l fun x hx => let ⟨s, _, e⟩ := List.mem_map.mp (h.mem_iff.mp hx); ⟨s, e.symm⟩).symm, by
    have := h.filterMap J.asStr
    rwa [← strsOf_eq_filterMap, ← strsOf_eq_filterMap, strsOf_map] at this⟩

/-- what `shuffleMems` does to the value under the name `k` -/
def shuffleAt (σ : List J → List J) (k : String) (v : J) : J :=
  if k = "_sd" then
    (match v with
     | .arr xs => .arr (σ (shuffleElems σ xs))
     | other => shuffleJ σ other)
  else shuffleJ σ v

theorem shuffleMems_eq_map (σ : List J → List J) :
    (l : List (String × J)) → shuffleMems σ l = l.map (fun p => (p.1, shuffleAt σ p.1 p.2))
  | [] => rfl
  | (k, v) :: r => by
    rw [shuffleMems.eq_def]
    simp only [List.map_cons, shuffleMems_eq_map σ r]
    rfl

/-- visiting the members of an object whose names are not `_sd` -/
theorem shuffleMems_no_sd (σ : List J → List J) (l : List (String × J)) (h : ∀ p ∈ l, p.1 ≠ "_sd") :
    shuffleMems σ l = l.map (fun p => (p.1, shuffleJ σ p.2)) := by
  rw [shuffleMems_eq_map]
  exact List.map_congr_left fun p hp => by simp [shuffleAt, h p hp]

theorem map_ains_new (g : String → J → J) (k : String) (v : J) :
    (l : List (String × J)) → (∀ p ∈ l, p.1 ≠ k) →
    (ains k v l).map (fun p => (p.1, g p.1 p.2)) = ains k (g k v) (l.map (fun p => (p.1, g p.1 p.2)))
  | [], _ => rfl
  | (k', v') :: r, h => by
    have ⟨hne, hr⟩ := List.forall_mem_cons.mp h
    by_cases h1 : k < k'
    · simp [ains, h1]
    · simp [ains, h1, Ne.symm hne, map_ains_new g k v r hr]

theorem shuffleMems_ains_sd (σ : List J → List J) (xs : List J) :
    (l : List (String × J)) → (∀ p ∈ l, p.1 ≠ "_sd") →
    shuffleMems σ (ains "_sd" (.arr xs) l) =
      ains "_sd" (.arr (σ (shuffleElems σ xs))) (l.map (fun p => (p.1, shuffleJ σ p.2))) := fun l h => by
  rw [shuffleMems_eq_map, map_ains_new (shuffleAt σ) _ _ l h, ← shuffleMems_eq_map, shuffleMems_no_sd σ l h]
  rfl

theorem shuffleJ_scalar (σ : List J → List J) (j : J) (h : J.scalar j) : shuffleJ σ j = j := by
  cases j <;> first | rfl | exact h.elim

mutual
/-- **the issuer's `shuffle_digests` on the claims it signs**: the result is the payload of a tree that differs
from the issued one only in the order of the digest lists visible in the payload -/
theorem MJ.shuffle_payload (σ : List J → List J) (hσ : ∀ l, (σ l).Perm l) :
    (T : MJ) → T.WF → ∃ T', T.sdPermVis T' ∧ shuffleJ σ T.payload = T'.payload
  | .leaf j, wf => ⟨.leaf j, rfl, shuffleJ_scalar σ j wf⟩
  | .arr xs, wf => by
    obtain ⟨ys, h1, h2⟩ := MElems.shuffle_hview σ hσ xs wf
    exact ⟨.arr ys, ⟨ys, rfl, h1⟩, congrArg J.arr h2⟩
  | .obj ms none, wf => by
    obtain ⟨ms', h1, h2⟩ := MMems.shuffle_hview σ hσ ms wf.1
    exact ⟨.obj ms' none, ⟨ms', none, rfl, h1, trivial⟩,
      congrArg J.obj ((shuffleMems_no_sd σ _ ((hview_keepsOf _ ms).ne_sd wf.1)).trans h2)⟩
  | .obj ms (some ds), wf => by
    obtain ⟨ms', h1, h2⟩ := MMems.shuffle_hview σ hσ ms wf.1
    obtain ⟨ds', e1, e2⟩ := perm_of_strs (σ (ds.map J.str)) ds (hσ _)
    exact ⟨.obj ms' (some ds'), ⟨ms', some ds', rfl, h1, e2.symm⟩, congrArg J.obj (by
      rw [withSd, shuffleMems_ains_sd σ _ _ ((hview_keepsOf _ ms).ne_sd wf.1), shuffleElems_strs, e1, h2]; rfl)⟩
theorem MElems.shuffle_hview (σ : List J → List J) (hσ : ∀ l, (σ l).Perm l) :
    (E : MElems) → E.WF → ∃ E', E.sdPermVis E' ∧
      shuffleElems σ (E.hview (fun _ => false)) = E'.hview (fun _ => false)
  | .nil, _ => ⟨.nil, rfl, rfl⟩
  | .clear x r, wf => by
    obtain ⟨y, a1, a2⟩ := MJ.shuffle_payload σ hσ x wf.1
    obtain ⟨r', b1, b2⟩ := MElems.shuffle_hview σ hσ r wf.2
    exact ⟨.clear y r', ⟨y, r', rfl, a1, b1⟩, (congr (congrArg List.cons a2) b2 :)⟩
  | .marked g x r, wf => by  -- `shuffleJ σ (placeholder g)` is `placeholder g` by computation
    obtain ⟨r', b1, b2⟩ := MElems.shuffle_hview σ hσ r wf.2
    exact ⟨.marked g x r', ⟨r', rfl, b1⟩, congrArg (placeholder g :: ·) b2⟩
  | .decoy g r, wf => by
    obtain ⟨r', b1, b2⟩ := MElems.shuffle_hview σ hσ r wf
    exact ⟨.decoy g r', ⟨r', rfl, b1⟩, congrArg (placeholder g :: ·) b2⟩
theorem MMems.shuffle_hview (σ : List J → List J) (hσ : ∀ l, (σ l).Perm l) :
    (M : MMems) → M.WF → ∃ M', M.sdPermVis M' ∧
      (M.hview (fun _ => false)).map (fun p => (p.1, shuffleJ σ p.2)) = M'.hview (fun _ => false)
  | .nil, _ => ⟨.nil, rfl, rfl⟩
  | .clear k x r, wf => by
    obtain ⟨y, a1, a2⟩ := MJ.shuffle_payload σ hσ x wf.2.2.1
    obtain ⟨r', b1, b2⟩ := MMems.shuffle_hview σ hσ r wf.2.2.2.2
    exact ⟨.clear k y r', ⟨y, r', rfl, a1, b1⟩, (congr (congrArg (fun a b => (k, a) :: b) a2) b2 :)⟩
  | .marked k g x r, wf => by
    obtain ⟨r', b1, b2⟩ := MMems.shuffle_hview σ hσ r wf.2.2.2.2
    exact ⟨.marked k g x r', ⟨r', rfl, b1⟩, b2⟩
end

end Impl
