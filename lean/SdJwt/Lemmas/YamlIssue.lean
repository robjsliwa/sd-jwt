import SdJwt.Lemmas.Defined
import SdJwt.Lemmas.YamlParse
import SdJwt.Lemmas.Ancestry
/-!
# Issuing with the paths `parse_yaml` reports is defined

`T.ypaths []` lists, for a marked tree `T`, the JSON pointers of its marked nodes in `parse_yaml`'s
order (for a tagged key the paths below it first, then its own).  Here: these strings parse back
to the token addresses `T.yaddrs []`; every one of them reaches an existing member / element of
the plain claims `T.unmark` (index tokens are canonical decimals, which `usize::from_str` and
serde_json's `parse_index` read back as the index); and no later address is equal to or inside an
earlier one.  With `markAll_defined` this makes issuing from the parsed result succeed.
-/
open Assoc Spec Path
namespace Impl

/-! ### canonical decimals parse back as the index -/

theorem digitVal_of_isDigit (c : Char) (h : c.isDigit = true) : digitVal c = some (c.toNat - '0'.toNat) := by
  simp only [Char.isDigit, Bool.and_eq_true, decide_eq_true_eq] at h
  simpa [digitVal, Char.le_def] using h

theorem parseDigits_digits : (ds : List Char) → (acc : Nat) → (∀ c ∈ ds, c.isDigit = true) →
    parseDigits ds acc = some (Nat.ofDigitChars 10 ds acc)
  | [], _, _ => rfl
  | c :: r, acc, h => by
    have ⟨hc, hr⟩ := List.forall_mem_cons.mp h
    simp [parseDigits, digitVal_of_isDigit c hc, parseDigits_digits r _ hr, Nat.ofDigitChars_cons, Nat.mul_comm]

/-- `usize::from_str` reads a run of digits as its value, if that is below 2^64 -/
theorem parseUsize_digits : (ds : List Char) → ds ≠ [] → (∀ c ∈ ds, c.isDigit = true) →
    Nat.ofDigitChars 10 ds 0 < 2^64 → parseUsize ds = some (Nat.ofDigitChars 10 ds 0)
  | a :: t, _, hd, hn => by
    have ha : a ≠ '+' := fun e => by simpa [e] using hd a List.mem_cons_self
    unfold parseUsize
    split
    · next heq => exact absurd (List.cons.inj heq).1 ha
    · simp [parseDigits_digits _ 0 hd, hn]

/-- and so does serde_json's `parse_index`, if the run has no leading zero -/
theorem parseIndex_digits (ds : List Char) (hne : ds ≠ []) (hd : ∀ c ∈ ds, c.isDigit = true)
    (hn : Nat.ofDigitChars 10 ds 0 < 2^64) (h0 : ∀ c r, ds ≠ '0' :: c :: r) :
    parseIndex ds = some (Nat.ofDigitChars 10 ds 0) := by
  unfold parseIndex
  split
  · exact absurd (hd '+' List.mem_cons_self) (by decide)
  · exact absurd rfl (h0 _ _)
  · exact parseUsize_digits ds hne hd hn

theorem toDigits_no_leading_zero (n : Nat) : ∀ c r, Nat.toDigits 10 n ≠ '0' :: c :: r := by
  induction n using Nat.base_induction 10 (by omega) with
  | single m hm => simp [Nat.toDigits_of_lt_base hm]
  | digit m k hk hm ih =>
    intro c r h
    rw [← Nat.toDigits_append_toDigits (by omega) hm hk, Nat.toDigits_of_lt_base hk] at h
    match hd : Nat.toDigits 10 m with
    | [] => exact Nat.toDigits_ne_nil hd
    | [a] =>
      -- the digits of `m` would be `0` alone
      have : Nat.ofDigitChars 10 (Nat.toDigits 10 m) 0 = m := Nat.ofDigitChars_ten_toDigits
      rw [hd] at h this
      injection h with ha
      simp [ha, Nat.ofDigitChars] at this
      omega
    | a :: c' :: r' =>
      rw [hd] at h
      injection h with ha
      exact ih c' r' (ha ▸ hd)

/-- `usize::from_str` reads the decimal of an index below 2^64 as that index -/
theorem pU_toString (i : Nat) (h : i < 2^64) : pU (toString i) = some i := by
  simpa [pU] using parseUsize_digits (toString i).toList (by simp) (toString_isDigit i) (by simpa using h)

/-- and so does serde_json's `parse_index` (no sign, no leading zero) -/
theorem pI_toString (i : Nat) (h : i < 2^64) : pI (toString i) = some i := by
  simpa [pI] using parseIndex_digits (toString i).toList (by simp) (toString_isDigit i) (by simpa using h)
    (by simpa using toDigits_no_leading_zero i)

end Impl

/-! ### the plain claims as a tree without marks -/

mutual
/-- the claims tree with every mark taken off (decoys dropped): the tree of the plain claims -/
def MJ.unmark : MJ → MJ
  | .leaf j => .leaf j
  | .arr xs => .arr xs.unmark
  | .obj ms _ => .obj ms.unmark none
def MElems.unmark : MElems → MElems
  | .nil => .nil
  | .clear x r => .clear x.unmark r.unmark
  | .marked _ x r => .clear x.unmark r.unmark
  | .decoy _ r => r.unmark
def MMems.unmark : MMems → MMems
  | .nil => .nil
  | .clear k x r => .clear k x.unmark r.unmark
  | .marked k _ x r => .clear k x.unmark r.unmark
end

mutual
/-- the token addresses of the marked nodes, in `parse_yaml`'s order -/
def MJ.yaddrs (toks : List String) : MJ → List (List String × String)
  | .leaf _ => []
  | .arr xs => xs.yaddrs toks 0
  | .obj ms _ => ms.yaddrs toks
def MElems.yaddrs (toks : List String) (i : Nat) : MElems → List (List String × String)
  | .nil => []
  | .clear x r => x.yaddrs (toks ++ [toString i]) ++ r.yaddrs toks (i+1)
  | .marked _ _ r => (toks, toString i) :: r.yaddrs toks (i+1)
  | .decoy _ r => r.yaddrs toks (i+1)
def MMems.yaddrs (toks : List String) : MMems → List (List String × String)
  | .nil => []
  | .clear k x r => x.yaddrs (toks ++ [k]) ++ r.yaddrs toks
  | .marked k _ x r => x.yaddrs (toks ++ [k]) ++ (toks, k) :: r.yaddrs toks
end

attribute [local simp] MJ.unmark MElems.unmark MMems.unmark MJ.yaddrs MElems.yaddrs MMems.yaddrs
  MJ.ypaths MElems.ypaths MMems.ypaths

namespace Impl

mutual
/-- nothing is hidden in `T.unmark`: every view and every projection of it is the plain claims -/
theorem MJ.unmark_view (S : String → Bool) : (T : MJ) → T.unmark.hview S = T.plain ∧ T.unmark.project S = T.plain
  | .leaf _ => ⟨rfl, rfl⟩
  | .arr xs => by simpa [MJ.plain] using MElems.unmark_view S xs
  | .obj ms _ => by simpa [MJ.plain, withSd] using MMems.unmark_view S ms
theorem MElems.unmark_view (S : String → Bool) : (xs : MElems) →
    xs.unmark.hview S = xs.project (fun _ => true) ∧ xs.unmark.project S = xs.project (fun _ => true)
  | .nil => ⟨rfl, rfl⟩
  | .clear x r | .marked _ x r => by simpa [MJ.plain, MJ.unmark_view S x] using MElems.unmark_view S r
  | .decoy _ r => by simpa using MElems.unmark_view S r
theorem MMems.unmark_view (S : String → Bool) : (ms : MMems) →
    ms.unmark.hview S = ms.project (fun _ => true) ∧ ms.unmark.project S = ms.project (fun _ => true)
  | .nil => ⟨rfl, rfl⟩
  | .clear _ x r | .marked _ _ x r => by simpa [MJ.plain, MJ.unmark_view S x] using MMems.unmark_view S r
end

theorem MJ.unmark_payload : (T : MJ) → T.unmark.payload = T.plain := fun T => (MJ.unmark_view _ T).1
theorem MElems.unmark_payload : (xs : MElems) →
    xs.unmark.hview (fun _ => false) = xs.project (fun _ => true) := fun xs => (MElems.unmark_view _ xs).1
theorem MMems.unmark_payload : (ms : MMems) →
    ms.unmark.hview (fun _ => false) = ms.project (fun _ => true) := fun ms => (MMems.unmark_view _ ms).1

theorem MJ.unmark_project (S : String → Bool) : (T : MJ) → T.unmark.project S = T.plain :=
  fun T => (MJ.unmark_view S T).2
theorem MElems.unmark_project (S : String → Bool) : (xs : MElems) →
    xs.unmark.project S = xs.project (fun _ => true) := fun xs => (MElems.unmark_view S xs).2
theorem MMems.unmark_project (S : String → Bool) : (ms : MMems) →
    ms.unmark.project S = ms.project (fun _ => true) := fun ms => (MMems.unmark_view S ms).2

theorem unmark_keys : (ms : MMems) → ms.unmark.keys = ms.keys
  | .nil => rfl
  | .clear k _ r | .marked k _ _ r => congrArg (k :: ·) (unmark_keys r)

theorem unmark_marks : (ms : MMems) → ms.unmark.marks = []
  | .nil => rfl
  | .clear _ _ r | .marked _ _ _ r => unmark_marks r

theorem unmark_keysGt (k0 : String) (ms : MMems) (h : ms.keysGt k0) : ms.unmark.keysGt k0 :=
  MMems.keysGt_iff.mpr (unmark_keys ms ▸ MMems.keysGt_iff.mp h)

mutual
theorem MJ.unmark_wf : (T : MJ) → T.WF → T.unmark.WF
  | .leaf _, h => h
  | .arr xs, h => MElems.unmark_wf xs h
  | .obj ms _, ⟨h, _⟩ => by simpa [unmark_marks] using MMems.unmark_wf ms h
theorem MElems.unmark_wf : (xs : MElems) → xs.WF → xs.unmark.WF
  | .nil, _ => trivial
  | .clear x r, ⟨wx, wr⟩ | .marked _ x r, ⟨wx, wr⟩ => ⟨MJ.unmark_wf x wx, MElems.unmark_wf r wr⟩
  | .decoy _ r, h => MElems.unmark_wf r h
theorem MMems.unmark_wf : (ms : MMems) → ms.WF → ms.unmark.WF
  | .nil, _ => trivial
  | .clear k x r, ⟨h1, h2, wx, hgt, wr⟩ | .marked k _ x r, ⟨h1, h2, wx, hgt, wr⟩ =>
    ⟨h1, h2, MJ.unmark_wf x wx, unmark_keysGt k r hgt, MMems.unmark_wf r wr⟩
end

mutual
theorem MJ.unmark_digests : (T : MJ) → T.unmark.digests = []
  | .leaf _ => rfl
  | .arr xs => MElems.unmark_digests xs
  | .obj ms _ => by simpa using MMems.unmark_digests ms
theorem MElems.unmark_digests : (xs : MElems) → xs.unmark.digests = []
  | .nil => rfl
  | .clear x r | .marked _ x r => by simp [MJ.unmark_digests x, MElems.unmark_digests r]
  | .decoy _ r => MElems.unmark_digests r
theorem MMems.unmark_digests : (ms : MMems) → ms.unmark.digests = []
  | .nil => rfl
  | .clear _ x r | .marked _ _ x r => by simp [MJ.unmark_digests x, MMems.unmark_digests r]
end

/-! ### the reported path strings are the rendered addresses -/

theorem joinPath_render (toks : List String) (k : String) :
    joinPath (toks.map escapeSeg ++ [escapeSeg k]) = renderPath toks k := by
  rw [← joinPath_eq_renderPath]; simp

mutual
theorem MJ.ypaths_render : (T : MJ) → (toks : List String) →
    T.ypaths (toks.map escapeSeg) = (T.yaddrs toks).map (fun a => renderPath a.1 a.2)
  | .leaf _, _ => rfl
  | .arr xs, toks => MElems.ypaths_render xs toks 0
  | .obj ms _, toks => MMems.ypaths_render ms toks
theorem MElems.ypaths_render : (xs : MElems) → (toks : List String) → (i : Nat) →
    xs.ypaths (toks.map escapeSeg) i = (xs.yaddrs toks i).map (fun a => renderPath a.1 a.2)
  | .nil, _, _ => rfl
  | .clear x r, toks, i => by
    simpa [-Nat.toString_eq_repr, escapeSeg_index, MElems.ypaths_render r toks (i+1)]
      using MJ.ypaths_render x (toks ++ [toString i])
  | .marked _ _ r, toks, i => by
    simpa [-Nat.toString_eq_repr, escapeSeg_index, MElems.ypaths_render r toks (i+1)]
      using joinPath_render toks (toString i)
  | .decoy _ r, toks, i => MElems.ypaths_render r toks (i+1)
theorem MMems.ypaths_render : (ms : MMems) → (toks : List String) →
    ms.ypaths (toks.map escapeSeg) = (ms.yaddrs toks).map (fun a => renderPath a.1 a.2)
  | .nil, _ => rfl
  | .clear k x r, toks => by simpa [MMems.ypaths_render r toks] using MJ.ypaths_render x (toks ++ [k])
  | .marked k _ x r, toks => by
    simpa [joinPath_render, MMems.ypaths_render r toks] using MJ.ypaths_render x (toks ++ [k])
end

/-! ### every reported address reaches a node of the plain claims -/

/-- `(k, x)` is a member (clear or marked) -/
def _root_.MMems.Has (k : String) (x : MJ) : MMems → Prop
  | .nil => False
  | .clear k' x' r => (k' = k ∧ x' = x) ∨ r.Has k x
  | .marked k' _ x' r => (k' = k ∧ x' = x) ∨ r.Has k x

mutual
/-- every array of the claims is shorter than 2^64 (what `usize` can index) -/
def _root_.MJ.Small : MJ → Prop
  | .leaf _ => True
  | .arr xs => elemCount xs < 2^64 ∧ xs.Small
  | .obj ms _ => ms.Small
def _root_.MElems.Small : MElems → Prop
  | .nil => True
  | .clear x r => x.Small ∧ r.Small
  | .marked _ x r => x.Small ∧ r.Small
  | .decoy _ r => r.Small
def _root_.MMems.Small : MMems → Prop
  | .nil => True
  | .clear _ x r => x.Small ∧ r.Small
  | .marked _ _ x r => x.Small ∧ r.Small
end

theorem has_keys {k : String} {x : MJ} : (ms : MMems) → ms.Has k x → k ∈ ms.keys
  | .clear _ _ r, h | .marked _ _ _ r, h => List.mem_cons.mpr (h.imp (·.1.symm) (has_keys r))

theorem has_getClear (k : String) (x : MJ) : (ms : MMems) → ms.WF → ms.Has k x →
    ms.unmark.getClear k = some x.unmark
  | .clear k' _ r, ⟨_, _, _, hgt, wr⟩, h | .marked k' _ _ r, ⟨_, _, _, hgt, wr⟩, h => by
    rcases h with ⟨rfl, rfl⟩ | h
    · simp
    · simp [slt_ne (MMems.keysGt_iff.mp hgt k (has_keys r h)), has_getClear k x r wr h]

/-- addresses below the node `x` of `R` reached by `toks` are addresses of `R` -/
def leads (toks : List String) (R x : MJ) : Prop :=
  ∀ r last, reaches r last x = true → reaches (toks ++ r) last R = true

theorem leads_nil (R : MJ) : leads [] R R := fun _ _ h => h

theorem leads_obj {toks R ms sd k c} (h : leads toks R (.obj ms sd)) (hc : ms.getClear k = some c) : leads (toks ++ [k]) R c :=
  fun r last hr => by simpa using h (k :: r) last (by simp [reaches, canonTok, MJ.child, hc, hr])

theorem leads_arr {toks R xs n c} (h : leads toks R (.arr xs)) (hc : xs.getClearAt n = some c) (hn : n < 2^64) :
    leads (toks ++ [toString n]) R c :=
  fun r last hr => by
    simpa using h (toString n :: r) last (by
      simp [-Nat.toString_eq_repr, reaches, canonTok, MJ.child, pI_toString n hn, hc, hr])

mutual
theorem MJ.yreach : (x : MJ) → (toks : List String) → (R : MJ) → x.WF → x.YamlOK → x.Small →
    leads toks R x.unmark → ∀ a ∈ x.yaddrs toks, reaches a.1 a.2 R = true
  | .leaf _, _, _, _, _, _, _ => nofun
  | .arr xs, toks, R, wf, hy, hs, hl =>
    MElems.yreach toks R xs.unmark hl xs 0 wf hy hs.2 (fun n => by simp) (by simpa using hs.1)
  | .obj ms _, toks, R, wf, hy, hs, hl => MMems.yreach ms toks R ms wf.1 wf.1 hy hs (fun _ _ h => h) hl
termination_by structural x => x
/-- `xs` is what is left of the array `all` (already without marks) from position `i` on -/
theorem MElems.yreach (toks : List String) (R : MJ) (all : MElems) (hl : leads toks R (.arr all)) :
    (xs : MElems) → (i : Nat) → xs.WF → xs.YamlOK → xs.Small →
    (∀ n, all.getClearAt (i + n) = xs.unmark.getClearAt n) → i + elemCount xs < 2^64 →
    ∀ a ∈ xs.yaddrs toks i, reaches a.1 a.2 R = true
  | .nil, _, _, _, _, _, _ => nofun
  | .decoy _ _, _, _, hy, _, _, _ => hy.elim
  | .clear x r, i, wf, hy, hs, hsub, hc =>
    List.forall_mem_append.mpr
      ⟨MJ.yreach x _ R wf.1 hy.1 hs.1 (leads_arr hl (hsub 0) (Nat.lt_of_le_of_lt (Nat.le_add_right ..) hc)),
        MElems.yreach toks R all hl r (i+1) wf.2 hy.2 hs.2 (fun n => Nat.add_right_comm i 1 n ▸ hsub (n+1))
          (Nat.add_right_comm i 1 _ ▸ hc)⟩
  | .marked _ x r, i, wf, hy, hs, hsub, hc =>
    have h0 : all.getClearAt i = some x.unmark := hsub 0
    have hi : i < 2^64 := Nat.lt_of_le_of_lt (Nat.le_add_right ..) hc
    List.forall_mem_cons.mpr
      ⟨by simpa using hl [] (toString i) (by simp [-Nat.toString_eq_repr, reaches, canMarkChild, pU_toString i hi, h0]),
        MElems.yreach toks R all hl r (i+1) wf.2 hy.2 hs.2 (fun n => Nat.add_right_comm i 1 n ▸ hsub (n+1))
          (Nat.add_right_comm i 1 _ ▸ hc)⟩
termination_by structural xs => xs
theorem MMems.yreach : (ms : MMems) → (toks : List String) → (R : MJ) → (all : MMems) → all.WF →
    ms.WF → ms.YamlOK → ms.Small → (∀ k x, ms.Has k x → all.Has k x) →
    leads toks R (.obj all.unmark none) → ∀ a ∈ ms.yaddrs toks, reaches a.1 a.2 R = true
  | .nil, _, _, _, _, _, _, _, _, _ => nofun
  | .clear k x r, toks, R, all, hall, wf, hy, hs, hsub, hl =>
    List.forall_mem_append.mpr
      ⟨MJ.yreach x _ R wf.2.2.1 hy.1 hs.1 (leads_obj hl (has_getClear k x all hall (hsub k x (.inl ⟨rfl, rfl⟩)))),
        MMems.yreach r toks R all hall wf.2.2.2.2 hy.2 hs.2 (fun k' y h => hsub k' y (.inr h)) hl⟩
  | .marked k _ x r, toks, R, all, hall, wf, hy, hs, hsub, hl => by
    have h0 := hsub k x (.inl ⟨rfl, rfl⟩)
    have hc := has_getClear k x all hall h0
    refine List.forall_mem_append.mpr ⟨MJ.yreach x _ R wf.2.2.1 hy.1 hs.1 (leads_obj hl hc), List.forall_mem_cons.mpr
      ⟨?_, MMems.yreach r toks R all hall wf.2.2.2.2 hy.2 hs.2 (fun k' y h => hsub k' y (.inr h)) hl⟩⟩
    have hk := has_keys all h0
    have hres : k ≠ "_sd" ∧ k ≠ "..." := ⟨fun e => hall.not_key.1 (e ▸ hk), fun e => hall.not_key.2 (e ▸ hk)⟩
    simpa using hl [] k (by simp [reaches, canMarkChild, hres, hc])
-- recursion on the first argument, said explicitly: with two tree arguments in each theorem Lean
-- finds "too many possible combinations", gives up on structural recursion and compiles the block
-- by well-founded recursion, at ten times the cost
termination_by structural ms => ms
end

/-- **Every path `parse_yaml` reports addresses an existing member or element of the plain
claims**, with canonical index tokens -/
theorem yaddrs_addressable (T : MJ) (wf : T.WF) (hy : T.YamlOK) (hs : T.Small) :
    ∀ a ∈ T.yaddrs [], Addressable T.unmark a :=
  MJ.yreach T [] T.unmark wf hy hs (leads_nil _)

/-! ### the reported order lists nested paths first and repeats none -/

theorem nestedFirst_append : (L1 L2 : List (List String × String)) → NestedFirst L1 → NestedFirst L2 →
    (∀ a ∈ L1, ∀ b ∈ L2, ¬ (a.1 ++ [a.2]) <+: (b.1 ++ [b.2])) → NestedFirst (L1 ++ L2)
  | [], _, _, h2, _ => h2
  | _ :: r, L2, ⟨h1, hr⟩, h2, hx =>
    have ⟨hxa, hxr⟩ := List.forall_mem_cons.mp hx
    ⟨List.forall_mem_append.mpr ⟨h1, hxa⟩, nestedFirst_append r L2 hr h2 hxr⟩

/-- the address of a node as one token list -/
def full (a : List String × String) : List String := a.1 ++ [a.2]

/-- a block of addresses below `q`, nested first -/
structure YZone (q : List String) (S : String → Prop) (l : List (List String × String)) : Prop where
  nested : NestedFirst l
  ext : Through full q S l

theorem YZone.empty (q : List String) (S : String → Prop) : YZone q S [] := ⟨trivial, .nil⟩

theorem YZone.mono {q S S' l} (h : YZone q S l) (hS : ∀ s, S s → S' s) : YZone q S' l :=
  ⟨h.nested, h.ext.mono hS⟩

theorem YZone.lift {q a S l} (h : YZone (q ++ [a]) S l) : YZone q (· = a) l := ⟨h.nested, h.ext.lift⟩

/-- a tagged child `a` of `q` after the addresses below it: they are longer than its own -/
theorem YZone.own {q a S l} (h : YZone (q ++ [a]) S l) : YZone q (· = a) (l ++ [(q, a)]) where
  nested := nestedFirst_append l [(q, a)] h.nested ⟨nofun, trivial⟩ fun e he b hb hp => by
    cases List.mem_singleton.mp hb
    have := (h.ext.properExt e he).length
    have := hp.length_le
    simp only [full] at *
    omega
  ext := h.ext.lift.append (Through.cons (l := []) (e := (q, a)) rfl .nil) |>.mono (fun _ hs => hs.elim id id)

/-- blocks through different children of `q` -/
theorem YZone.append {q SX SR lX lR} (hX : YZone q SX lX) (hR : YZone q SR lR) (hS : ∀ s, SX s → ¬ SR s) :
    YZone q (fun s => SX s ∨ SR s) (lX ++ lR) :=
  ⟨nestedFirst_append lX lR hX.nested hR.nested (fun a ha b hb => (hX.ext.sep hR.ext hS a ha b hb).1),
    hX.ext.append hR.ext⟩

mutual
theorem MJ.yzone : (x : MJ) → (q : List String) → x.WF → YZone q (fun _ => True) (x.yaddrs q)
  | .leaf _, q, _ => YZone.empty q _
  | .arr xs, q, wf => (MElems.yzone xs q 0 wf).mono fun _ _ => trivial
  | .obj ms _, q, wf => (MMems.yzone ms q wf.1).mono fun _ _ => trivial
theorem MElems.yzone : (xs : MElems) → (q : List String) → (i : Nat) → xs.WF → YZone q (FromIdx i) (xs.yaddrs q i)
  | .nil, q, _, _ => YZone.empty q _
  | .clear x r, q, i, ⟨wx, wr⟩ =>
    ((MJ.yzone x _ wx).lift.append (MElems.yzone r q (i+1) wr) fun _ => FromIdx.sep).mono fun _ => .cons
  | .marked _ _ r, q, i, ⟨_, wr⟩ =>
    ((YZone.empty (q ++ [toString i]) (fun _ => True)).own.append (MElems.yzone r q (i+1) wr)
      fun _ => FromIdx.sep).mono fun _ => .cons
  | .decoy _ r, q, i, wf => (MElems.yzone r q (i+1) wf).mono fun _ => .succ
theorem MMems.yzone : (ms : MMems) → (q : List String) → ms.WF → YZone q (KeyOf id ms.keys) (ms.yaddrs q)
  | .nil, q, _ => YZone.empty q _
  | .clear _ x r, q, ⟨_, _, wx, hgt, wr⟩ =>
    ((MJ.yzone x _ wx).lift.append (MMems.yzone r q wr) fun _ => KeyOf.sep id hgt).mono fun _ => KeyOf.cons (f := id)
  | .marked _ _ x r, q, ⟨_, _, wx, hgt, wr⟩ => by
    simpa using ((MJ.yzone x _ wx).own.append (MMems.yzone r q wr) fun _ => KeyOf.sep id hgt).mono fun _ => KeyOf.cons (f := id)
end

theorem MJ.yaddrs_nested : (x : MJ) → (toks : List String) → x.WF → NestedFirst (x.yaddrs toks) :=
  fun x toks wf => (MJ.yzone x toks wf).nested
theorem MElems.yaddrs_nested : (xs : MElems) → (toks : List String) → (i : Nat) → xs.WF →
    NestedFirst (xs.yaddrs toks i) :=
  fun xs toks i wf => (MElems.yzone xs toks i wf).nested
theorem MMems.yaddrs_nested : (ms : MMems) → (toks : List String) → ms.WF → NestedFirst (ms.yaddrs toks) :=
  fun ms toks wf => (MMems.yzone ms toks wf).nested

/-- **Issuing with the paths `parse_yaml` reports is defined.**  For a marked tree a YAML document
can express, whose arrays are shorter than 2^64: the reported path strings parse to addresses under
which marking the plain claims is defined (one disclosure per reported path), for every digest
function that never repeats a value across draws. -/
theorem yaml_paths_markAll (mk : Nat → Option String → J → String)
    (hmk : ∀ i j k v k' v', mk i k v = mk j k' v' → i = j)
    (T : MJ) (wf : T.WF) (hy : T.YamlOK) (hs : T.Small) :
    ParsedAll (T.ypaths []) (T.yaddrs []) ∧
    ∃ Tn ds, markAll mk 0 (T.yaddrs []) T.unmark = some (Tn, ds) ∧ ds.length = (T.ypaths []).length := by
  have hr : T.ypaths [] = _ := MJ.ypaths_render T []
  refine ⟨hr ▸ parsedAll_render _, ?_⟩
  obtain ⟨Tn, ds, h⟩ := markAll_defined mk hmk (T.yaddrs []) 0 T.unmark (yaddrs_addressable T wf hy hs)
    (MJ.yaddrs_nested T [] wf) (by simp [MJ.unmark_digests])
  exact ⟨Tn, ds, h, by rw [markAll_length mk _ 0 _ Tn ds h, hr, List.length_map]⟩

end Impl
