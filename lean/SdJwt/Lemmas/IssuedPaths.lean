import SdJwt.Lemmas.MarkInv
import SdJwt.Lemmas.Ancestry
/-!
# The pointer of a node the issuer marks is the path string it was given (canonical paths)

Marking the node addressed by `(toks, last)` adds exactly one entry to `T.paths`: the pointer
`format_path` renders for that node.  When every token that addresses an array element is the
canonical decimal of its index, that pointer is `renderPath toks last` — the string whose
parsing gave `(toks, last)`.
-/
open Assoc Spec Path
namespace Impl

theorem paths_toMarked (k dg p : String) : (ms : MMems) → (x : MJ) → ms.getClear k = some x →
    ((ms.toMarked k dg).paths p).Perm ((fmtPath p k, dg) :: ms.paths p)
  | .nil, _, h => by simp [MMems.getClear] at h
  | .clear k' x' r, x, h => by
    simp only [MMems.getClear] at h
    by_cases hk : k' = k
    · subst hk
      simp only [MMems.toMarked, if_true, MMems.paths]
      exact List.Perm.refl _
    · simp only [hk, if_false] at h
      simp only [MMems.toMarked, hk, if_false, MMems.paths]
      exact ((paths_toMarked k dg p r x h).append_left _).trans List.perm_middle
  | .marked k' dg' x' r, x, h => by
    simp only [MMems.getClear] at h
    simp only [MMems.toMarked, MMems.paths]
    have := paths_toMarked k dg p r x h
    exact ((this.append_left _).trans List.perm_middle).cons _ |>.trans (List.Perm.swap _ _ _)

theorem paths_setClear (k p : String) (y : MJ) (a : String × String) : (ms : MMems) → (x : MJ) →
    ms.getClear k = some x → (y.paths (fmtPath p k)).Perm (a :: x.paths (fmtPath p k)) →
    ((ms.setClear k y).paths p).Perm (a :: ms.paths p)
  | .nil, _, h, _ => by simp [MMems.getClear] at h
  | .clear k' x' r, x, h, hy => by
    simp only [MMems.getClear] at h
    by_cases hk : k' = k
    · subst hk
      simp only [if_true, Option.some.injEq] at h; subst h
      simp only [MMems.setClear, if_true, MMems.paths]
      exact hy.append_right _
    · simp only [hk, if_false] at h
      simp only [MMems.setClear, hk, if_false, MMems.paths]
      exact ((paths_setClear k p y a r x h hy).append_left _).trans List.perm_middle
  | .marked k' dg' x' r, x, h, hy => by
    simp only [MMems.getClear] at h
    simp only [MMems.setClear, MMems.paths]
    have := paths_setClear k p y a r x h hy
    exact ((this.append_left _).trans List.perm_middle).cons _ |>.trans (List.Perm.swap _ _ _)

theorem paths_toMarkedAt (dg p : String) : (j i : Nat) → (xs : MElems) → (x : MJ) → xs.getClearAt j = some x →
    ((xs.toMarkedAt dg j).paths p i).Perm ((fmtPath p (toString (i + j)), dg) :: xs.paths p i)
  | _, _, .nil, _, h => by simp [MElems.getClearAt] at h
  | 0, i, .clear x' r, x, _ => by simp [MElems.toMarkedAt, MElems.paths]
  | 0, _, .marked _ _ _, _, h => by simp [MElems.getClearAt] at h
  | 0, _, .decoy _ _, _, h => by simp [MElems.getClearAt] at h
  | j+1, i, .clear x' r, x, h => by
    simp only [MElems.getClearAt] at h
    have := paths_toMarkedAt dg p j (i+1) r x h
    have e : i + 1 + j = i + (j + 1) := by omega
    rw [e] at this
    simp only [MElems.toMarkedAt, MElems.paths]
    exact (this.append_left _).trans List.perm_middle
  | j+1, i, .marked dg' x' r, x, h => by
    simp only [MElems.getClearAt] at h
    have := paths_toMarkedAt dg p j (i+1) r x h
    have e : i + 1 + j = i + (j + 1) := by omega
    rw [e] at this
    simp only [MElems.toMarkedAt, MElems.paths]
    exact ((this.append_left _).trans List.perm_middle).cons _ |>.trans (List.Perm.swap _ _ _)
  | j+1, i, .decoy dg' r, x, h => by
    simp only [MElems.getClearAt] at h
    have := paths_toMarkedAt dg p j (i+1) r x h
    have e : i + 1 + j = i + (j + 1) := by omega
    rw [e] at this
    simpa [MElems.toMarkedAt, MElems.paths] using this

theorem paths_setClearAt (p : String) (y : MJ) (a : String × String) (n : Nat) : (j : Nat) → (xs : MElems) →
    ∀ (i : Nat) (x : MJ), n = i + j → xs.getClearAt j = some x →
    (y.paths (fmtPath p (toString n))).Perm (a :: x.paths (fmtPath p (toString n))) →
    ((xs.setClearAt y j).paths p i).Perm (a :: xs.paths p i)
  | _, .nil, _, _, _, h, _ => by simp [MElems.getClearAt] at h
  | 0, .clear x' r, i, x, hn, h, hy => by
    simp only [MElems.getClearAt, Option.some.injEq] at h; subst h
    have : n = i := by omega
    subst this
    simp only [MElems.setClearAt, MElems.paths]
    exact hy.append_right _
  | 0, .marked _ _ _, _, _, _, h, _ => by simp [MElems.getClearAt] at h
  | 0, .decoy _ _, _, _, _, h, _ => by simp [MElems.getClearAt] at h
  | j+1, .clear x' r, i, x, hn, h, hy => by
    simp only [MElems.getClearAt] at h
    have := paths_setClearAt p y a n j r (i+1) x (by omega) h hy
    simp only [MElems.setClearAt, MElems.paths]
    exact (this.append_left _).trans List.perm_middle
  | j+1, .marked dg' x' r, i, x, hn, h, hy => by
    simp only [MElems.getClearAt] at h
    have := paths_setClearAt p y a n j r (i+1) x (by omega) h hy
    simp only [MElems.setClearAt, MElems.paths]
    exact ((this.append_left _).trans List.perm_middle).cons _ |>.trans (List.Perm.swap _ _ _)
  | j+1, .decoy dg' r, i, x, hn, h, hy => by
    simp only [MElems.getClearAt] at h
    have := paths_setClearAt p y a n j r (i+1) x (by omega) h hy
    simpa [MElems.setClearAt, MElems.paths] using this


/-- tokens that parse as an index are the canonical decimal of that index -/
def CanonToks (toks : List String) : Prop :=
  ∀ t ∈ toks, ∀ i, (pI t = some i ∨ pU t = some i) → t = toString i

/-- the index tokens that the walk along `(toks, last)` reads in `T` are canonical decimals -/
def canonAlong : List String → String → MJ → Prop
  | [], last, .arr _ => ∀ i, pU last = some i → last = toString i
  | [], _, _ => True
  | t :: r, last, T => (∀ xs, T = .arr xs → ∀ i, pI t = some i → t = toString i) ∧
      ∀ x, T.child pI t = some x → canonAlong r last x

theorem canonAlong_of_canonToks (last : String) : (toks : List String) → CanonToks (toks ++ [last]) →
    (T : MJ) → canonAlong toks last T
  | [], hc, .arr _ => fun i hp => hc last (by simp) i (.inr hp)
  | [], _, .leaf _ => trivial
  | [], _, .obj _ _ => trivial
  | t :: r, hc, _ => ⟨fun _ _ i hp => hc t (by simp) i (.inl hp), fun x _ =>
      canonAlong_of_canonToks last r (fun t' ht' => hc t' (List.mem_cons_of_mem _ ht')) x⟩

/-- **Marking adds the pointer of the addressed node**: `format_path` applied along the tokens,
when those that were read as indices are canonical. -/
theorem markIn_paths_of (mk : Option String → J → String) (last : String) (toks : List String)
    (T T' : MJ) (d : SDisc) (h : MJ.markIn pI pU mk toks last T = some (T', d)) :
    canonAlong toks last T → ∀ p, (T'.paths p).Perm (((toks ++ [last]).foldl fmtPath p, d.digest) :: T.paths p) := by
  refine markIn_induct mk last (fun toks T T' d => canonAlong toks last T → ∀ p,
    (T'.paths p).Perm (((toks ++ [last]).foldl fmtPath p, d.digest) :: T.paths p)) ?_ ?_ ?_ ?_ toks T T' d h
  · intro ms sd x _ hg _ p
    simpa [MJ.paths] using paths_toMarked last (mk (some last) x.payload) p ms x hg
  · intro xs i x hp hg hc p
    have := paths_toMarkedAt (mk none x.payload) p i 0 xs x hg
    simpa [MJ.paths, hc i hp] using this
  · intro ms sd t r x x' d hg ih hc p
    simpa [MJ.paths] using paths_setClear t p x' _ ms x hg (ih (hc.2 x hg) (fmtPath p t))
  · intro xs t r i x x' d hp hg ih hc p
    have hx : (MJ.arr xs).child pI t = some x := by simp [MJ.child, hp, hg]
    have := paths_setClearAt p x' _ i i xs 0 x (by omega) hg (ih (hc.2 x hx) (fmtPath p (toString i)))
    rw [hc.1 xs rfl i hp]
    simpa [MJ.paths] using this

theorem markIn_paths (mk : Option String → J → String) (last : String) :
    (toks : List String) → (T T' : MJ) → (d : SDisc) → (p : String) → CanonToks (toks ++ [last]) →
    MJ.markIn pI pU mk toks last T = some (T', d) →
    (T'.paths p).Perm (((toks ++ [last]).foldl fmtPath p, d.digest) :: T.paths p) :=
  fun toks T T' d p hc h => markIn_paths_of mk last toks T T' d h (canonAlong_of_canonToks last toks hc T) p

/-- the pointer `format_path` builds along canonical tokens is the rendered JSON pointer -/
theorem foldl_fmtPath (segs0 toks : List String) :
    toks.foldl fmtPath (joinPath segs0) = joinPath (segs0 ++ toks.map escapeSeg) := by
  induction toks generalizing segs0 with
  | nil => simp
  | cons t r ih =>
    simp only [List.foldl_cons, List.map_cons]
    rw [fmtPath_joinPath, ih]
    simp

theorem joinPath_eq_renderPath (toks : List String) (last : String) :
    joinPath ((toks ++ [last]).map escapeSeg) = renderPath toks last := by
  apply String.toList_inj.mp
  rw [toList_joinPath, renderPath, String.toList_ofList, List.map_map]
  -- `congr` would first try `rfl`, which unfolds `renderL` on both sides
  exact congrArg renderL (List.map_congr_left fun k _ => String.toList_ofList)

theorem foldl_fmtPath_render (toks : List String) (last : String) :
    (toks ++ [last]).foldl fmtPath "" = renderPath toks last := by
  rw [← joinPath_eq_renderPath, ← List.nil_append (List.map _ _), ← foldl_fmtPath]; rfl

/-- **The pointers of the issued tree are the path strings the issuer was given**: marking the
addressed nodes one after another adds, per path, the entry (rendered pointer, digest of its
disclosure) — as long as some property `P` of (working tree, remaining addresses) that makes the
index tokens read canonical is kept by every step. -/
theorem markAll_paths_of (mk : Nat → Option String → J → String)
    (P : MJ → List (List String × String) → Prop)
    (hhead : ∀ T a r, P T (a :: r) → canonAlong a.1 a.2 T)
    (htail : ∀ i T a r T1 d, P T (a :: r) → MJ.markIn pI pU (mk i) a.1 a.2 T = some (T1, d) → P T1 r) :
    (addr : List (List String × String)) → (i : Nat) → (T Tn : MJ) → (ds : List SDisc) →
    P T addr → markAll mk i addr T = some (Tn, ds) →
    (Tn.paths "").Perm ((addr.map (fun a => renderPath a.1 a.2)).zip (ds.map (·.digest)) ++ T.paths "")
  | [], i, T, Tn, ds, _, h => by
    simp only [markAll, Option.some.injEq, Prod.mk.injEq] at h
    obtain ⟨rfl, rfl⟩ := h
    simp
  | (toks, last) :: r, i, T, Tn, ds, hP, h => by
    simp only [markAll] at h
    cases hm : MJ.markIn pI pU (mk i) toks last T with
    | none => simp [hm] at h
    | some res =>
      obtain ⟨T1, d⟩ := res
      simp only [hm] at h
      split at h
      · cases h
      · cases ha : markAll mk (i+1) r T1 with
        | none => simp [ha] at h
        | some res2 =>
          obtain ⟨T2, ds2⟩ := res2
          simp only [ha, Option.some.injEq, Prod.mk.injEq] at h
          obtain ⟨rfl, rfl⟩ := h
          have h1 := markIn_paths_of (mk i) last toks T T1 d hm (hhead T _ r hP) ""
          have h2 := markAll_paths_of mk P hhead htail r (i+1) T1 T2 ds2 (htail i T _ r T1 d hP hm) ha
          rw [foldl_fmtPath_render] at h1
          refine h2.trans ?_
          simp only [List.map_cons, List.zip_cons_cons, List.cons_append]
          exact ((h1.append_left _).trans List.perm_middle)

theorem markAll_paths (mk : Nat → Option String → J → String) :
    (addr : List (List String × String)) → (i : Nat) → (T Tn : MJ) → (ds : List SDisc) →
    (∀ a ∈ addr, CanonToks (a.1 ++ [a.2])) → markAll mk i addr T = some (Tn, ds) →
    (Tn.paths "").Perm ((addr.map (fun a => renderPath a.1 a.2)).zip (ds.map (·.digest)) ++ T.paths "") :=
  fun addr i T => markAll_paths_of mk (fun _ addr => ∀ a ∈ addr, CanonToks (a.1 ++ [a.2]))
    (fun T a _ h => canonAlong_of_canonToks a.2 a.1 (h a (by simp)) T)
    (fun _ _ _ _ _ _ h _ b hb => h b (List.mem_cons_of_mem _ hb)) addr i T

end Impl

namespace Impl

theorem markAll_length (mk : Nat → Option String → J → String) :
    (addr : List (List String × String)) → (i : Nat) → (T Tn : MJ) → (ds : List SDisc) →
    markAll mk i addr T = some (Tn, ds) → ds.length = addr.length
  | [], i, T, Tn, ds, h => by
    simp only [markAll, Option.some.injEq, Prod.mk.injEq] at h
    rw [← h.2]; rfl
  | (toks, last) :: r, i, T, Tn, ds, h => by
    simp only [markAll] at h
    cases hm : MJ.markIn pI pU (mk i) toks last T with
    | none => simp [hm] at h
    | some res =>
      obtain ⟨T1, d⟩ := res
      simp only [hm] at h
      split at h
      · cases h
      · cases ha : markAll mk (i+1) r T1 with
        | none => simp [ha] at h
        | some res2 =>
          obtain ⟨T2, ds2⟩ := res2
          simp only [ha, Option.some.injEq, Prod.mk.injEq] at h
          obtain ⟨rfl, rfl⟩ := h
          simp [markAll_length mk r (i+1) T1 T2 ds2 ha]

theorem parsedAll_render : (addr : List (List String × String)) →
    ParsedAll (addr.map (fun a => renderPath a.1 a.2)) addr
  | [] => trivial
  | (toks, last) :: r => ⟨parsed_renderPath toks last, parsedAll_render r⟩

/-- from (pointer, digest) entries to the list of pointer strings, on claims without marks -/
theorem pointers_of_paths (mk : Nat → Option String → J → String) (addr : List (List String × String))
    (T Tn : MJ) (ds : List SDisc) (hclear : T.allMarks = []) (h : markAll mk 0 addr T = some (Tn, ds))
    (h1 : (Tn.paths "").Perm ((addr.map (fun a => renderPath a.1 a.2)).zip (ds.map (·.digest)) ++ T.paths "")) :
    ((Tn.paths "").map (·.1)).Perm (addr.map (fun a => renderPath a.1 a.2)) := by
  have hT : T.paths "" = [] := List.map_eq_nil_iff.mp ((MJ.paths_snd T "").trans hclear)
  rw [hT, List.append_nil] at h1
  refine (h1.map (·.1)).trans ?_
  rw [List.map_fst_zip (by simp [markAll_length mk addr 0 T Tn ds h])]

/-- the pointers of the issued tree, as a list of strings, are the canonical path strings given -/
theorem issued_pointers (mk : Nat → Option String → J → String) (addr : List (List String × String))
    (T Tn : MJ) (ds : List SDisc) (hclear : T.allMarks = [])
    (hc : ∀ a ∈ addr, CanonToks (a.1 ++ [a.2])) (h : markAll mk 0 addr T = some (Tn, ds)) :
    ((Tn.paths "").map (·.1)).Perm (addr.map (fun a => renderPath a.1 a.2)) :=
  pointers_of_paths mk addr T Tn ds hclear h (markAll_paths mk addr 0 T Tn ds hc h)

end Impl
