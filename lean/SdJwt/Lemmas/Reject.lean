import SdJwt.Lemmas.Check
import SdJwt.Lemmas.Total
import SdJwt.Impl.Flows
/-! Rejection lemmas (C12): how a defect anywhere turns into an `err` of the entry points.
The validating pre-pass of `restore_disclosures` — payload first, then the value of every presented
disclosure, one shared set of seen digests — is one `walked`; what acceptance implies is read off. -/
open Assoc

/-- with `NoPanic`, "not ok" is "an error" -/
theorem Outcome.err_of_not_ok {α : Type} {o : Outcome α} (hp : o ≠ .panic) (h : ∀ a, o ≠ .ok a) :
    ∃ e, o = .err e := by
  cases o with
  | ok a => exact absurd rfl (h a)
  | err e => exact ⟨e, rfl⟩
  | panic => exact absurd rfl hp

namespace Impl

/-- all digests embedded in the values of a list of disclosures, in list order -/
def embeddedValues (ds : List Disc) : List String := (ds.map (fun d => embedded d.value)).flatten

theorem checkValues_cons (d : Disc) (r : List Disc) (seen : List String) :
    checkValues (d :: r) seen = (checkDigests d.value seen).bind (checkValues r) := by
  rw [checkValues]; cases checkDigests d.value seen <;> rfl

theorem checkValues_eq : (ds : List Disc) → (seen : List String) → checkValues ds seen =
    walked seen (embeddedValues ds) (ds.all fun d => !hasBadSd d.value && !hasBadPlaceholder d.value)
  | [], seen => (walked_nil seen).symm
  | d :: r, seen => by
    rw [checkValues_cons, checkDigests_eq, funext (checkValues_eq r), walked_bind]; rfl

/-- the pre-pass over the disclosure values: one shared set of seen digests -/
theorem checkValues_spec : (ds : List Disc) → (seen s : List String) → checkValues ds seen = .ok s →
    s = seen ++ embeddedValues ds ∧ (∀ g ∈ embeddedValues ds, g ∉ seen) ∧ (embeddedValues ds).Nodup ∧
    ∀ d ∈ ds, hasBadSd d.value = false ∧ hasBadPlaceholder d.value = false := fun ds seen s h => by
  obtain ⟨hg, hf, rfl⟩ := walked_ok_iff.mp (checkValues_eq ds seen ▸ h)
  exact ⟨rfl, hf.2, hf.1, by simpa using hg⟩

/-- …and the value of every presented disclosure passes it -/
theorem checkValues_ok_each : (ds : List Disc) → (seen s : List String) → checkValues ds seen = .ok s →
    ∀ d ∈ ds, ∃ seen' s', checkDigests d.value seen' = .ok s' := fun ds seen s h d hd => by
  obtain ⟨_, _, hn, hc⟩ := checkValues_spec ds seen s h
  have hd' : (embedded d.value).Nodup :=
    (List.sublist_flatten_of_mem (List.mem_map_of_mem (f := fun d : Disc => embedded d.value) hd)).nodup hn
  exact ⟨[], _, checkDigests_eq d.value [] ▸
    walked_ok_iff.mpr ⟨by simp [hc d hd], ⟨hd', fun _ _ => List.not_mem_nil⟩, rfl⟩⟩

/-- the pre-pass runs over the payload before anything is placed, then over the value of every
presented disclosure with the same set of seen digests: together one walk -/
theorem restoreDecoded_eq (P : J) (ds : List Disc) : restoreDecoded P ds =
    (walked [] (embedded P ++ embeddedValues ds) ((!hasBadSd P && !hasBadPlaceholder P) &&
      ds.all fun d => !hasBadSd d.value && !hasBadPlaceholder d.value)).bind
    fun _ => rounds ds.length P ds [] := by
  rw [← walked_bind, ← checkDigests_eq, ← funext (checkValues_eq ds), restoreDecoded]
  cases checkDigests P [] <;> try rfl
  rename_i seen; dsimp only [Outcome.bind]; cases checkValues ds seen <;> rfl

/-- **What acceptance is, for decoded disclosures**: no `_sd` is a non-array and no placeholder has
extra members, anywhere in the payload or in any disclosure's value; all digests embedded in the
payload and in all disclosure values together are pairwise different; and the rounds succeed. -/
theorem restoreDecoded_ok_iff {P : J} {ds : List Disc} {r : J × List PathEntry} :
    restoreDecoded P ds = .ok r ↔
      (hasBadSd P = false ∧ hasBadPlaceholder P = false ∧
        ∀ d ∈ ds, hasBadSd d.value = false ∧ hasBadPlaceholder d.value = false) ∧
      (embedded P ++ embeddedValues ds).Nodup ∧ rounds ds.length P ds [] = .ok r := by
  simp [restoreDecoded_eq, walked_bind_ok_iff, Fresh, and_assoc]

theorem restoreAll_ok_iff {env : Env} {P : J} {L : List String} {r : J × List PathEntry} :
    restoreAll env P L = .ok r ↔ ∃ ds, decodeAll env L [] = .ok ds ∧ restoreDecoded P ds = .ok r := by
  rw [restoreAll]; cases decodeAll env L [] <;> simp

/-- **What acceptance implies, globally (D17/D18 across payload and disclosures).** If the
restorer accepts, then — for the decoded disclosures `ds` — no `_sd` is a non-array and no
placeholder has extra members, anywhere in the payload or in ANY disclosure's value, and all
digests embedded in the payload and in all disclosure values together are pairwise distinct. -/
theorem restoreAll_ok_global (env : Env) (P : J) (L : List String) (r : J × List PathEntry)
    (h : restoreAll env P L = .ok r) :
    ∃ ds, decodeAll env L [] = .ok ds ∧ (embedded P ++ embeddedValues ds).Nodup ∧
      hasBadSd P = false ∧ hasBadPlaceholder P = false ∧
      ∀ d ∈ ds, hasBadSd d.value = false ∧ hasBadPlaceholder d.value = false := by
  obtain ⟨ds, hd, h⟩ := restoreAll_ok_iff.mp h
  obtain ⟨hc, hn, _⟩ := restoreDecoded_ok_iff.mp h
  exact ⟨ds, hd, hn, hc⟩

end Impl
