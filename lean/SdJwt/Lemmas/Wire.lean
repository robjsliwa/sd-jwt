import SdJwt.Lemmas.FlowL
import SdJwt.Lemmas.KB
import SdJwt.Lemmas.IssueAll
/-!
# The wire format `jwt~d₁~…~dₙ~[kb]`, and what the flows make of it

`splitOn c` and `joinWith c` are inverse to each other on lists of `c`-free pieces; a presentation
is such a join.  Hence `sd_jwt_parts` and `drop_kb` find exactly the pieces, and `verify` of a
presentation is `restoreAll` of its disclosures on the payload the JWT library returns.
-/
open Assoc
namespace Impl

theorem splitOn_joinWith (c : Char) : (l : List (List Char)) → l ≠ [] → (∀ p ∈ l, c ∉ p) →
    splitOn c (joinWith c l) = l
  | [], h, _ => absurd rfl h
  | [a], _, h => splitOn_of_not_mem c a (h a (by simp))
  | a :: b :: r, _, h => by
    rw [joinWith, splitOn_prefix c a _ (h a (by simp)),
      splitOn_joinWith c (b :: r) (by simp) (fun p hp => h p (by simp [hp]))]

/-- a presentation, with or without key-binding JWT (`kb = ""`), is its pieces joined by `~` -/
theorem toList_assemble_append (jwt : String) (ds : List String) (kb : String) :
    (assemble jwt ds ++ kb).toList = joinWith '~' (jwt.toList :: (ds.map (·.toList) ++ [kb.toList])) := by
  rw [String.toList_append, toList_assemble, joinWith_flatten]
  simp [List.map_map, Function.comp_def]

/-- `sd_jwt_parts` of `~`-free pieces joined by `~`: first, middle, and the last one if not empty -/
theorem sdJwtParts_joinWith (jwt : List Char) (ds : List (List Char)) (last : List Char)
    (h : ∀ p ∈ jwt :: (ds ++ [last]), '~' ∉ p) :
    sdJwtParts (joinWith '~' (jwt :: (ds ++ [last]))) =
      .ok { jwt := jwt, disclosures := ds, kb := if last ≠ [] then some last else none } := by
  unfold sdJwtParts
  rw [splitOn_joinWith '~' _ (by simp) h]
  have hlast : (jwt :: (ds ++ [last])).getLast? = some last := by
    rw [← List.cons_append, List.getLast?_concat]
  have htake : ((jwt :: (ds ++ [last])).drop 1).take (ds.length + 2 - 2) = ds := by simp
  have hlen : (jwt :: (ds ++ [last])).length = ds.length + 2 := by simp
  simp only [hlast, hlen, htake, Option.getD_some]
  cases ds <;> simp

theorem strOf_toList_map (l : List String) : (l.map (·.toList)).map strOf = l := by
  simp [List.map_map, Function.comp_def, strOf, String.ofList_toList]

theorem pieces_no_tilde (jwt : String) (strs : List String) (kb : String)
    (hj : '~' ∉ jwt.toList) (hs : ∀ s ∈ strs, '~' ∉ s.toList) (hk : '~' ∉ kb.toList) :
    ∀ p ∈ jwt.toList :: (strs.map (·.toList) ++ [kb.toList]), '~' ∉ p := by
  intro p hp
  simp only [List.mem_cons, List.mem_append, List.mem_map, List.not_mem_nil, or_false] at hp
  rcases hp with rfl | ⟨s, hs', rfl⟩ | rfl
  · exact hj
  · exact hs s hs'
  · exact hk

/-- the parts of a presentation; `kb = ""` when there is no key-binding JWT -/
theorem sdJwtParts_presentation (jwt : String) (strs : List String) (kb : String)
    (hj : '~' ∉ jwt.toList) (hs : ∀ s ∈ strs, '~' ∉ s.toList) (hk : '~' ∉ kb.toList) :
    sdJwtParts (assemble jwt strs ++ kb).toList =
      .ok { jwt := jwt.toList, disclosures := strs.map (·.toList),
            kb := if kb.toList ≠ [] then some kb.toList else none } := by
  rw [toList_assemble_append]
  exact sdJwtParts_joinWith _ _ _ (pieces_no_tilde jwt strs kb hj hs hk)

/-- what the key-binding JWT commits to: the presentation without it -/
theorem dropKb_presentation (jwt : String) (strs : List String) (kb : String) (hk : '~' ∉ kb.toList) :
    dropKb (assemble jwt strs ++ kb).toList = (assemble jwt strs).toList := by
  rw [String.toList_append, toList_assemble, List.append_assoc _ ['~'], List.singleton_append]
  exact dropKb_append _ _ hk

section accept
variable (rt : Rt) (jwt : String) (strs : List String) (header p c : J) (a alg : String)
  (ps : List PathEntry)
  (hj : '~' ∉ jwt.toList) (hs : ∀ s ∈ strs, '~' ∉ s.toList)
  (hjwt : rt.jwtDecode jwt = .ok (header, p)) (ha : (jidx p "_sd_alg").asStr = some a)
  (hpa : parseHashAlg a = .ok alg) (hr : restoreAll (rt.env alg) p strs = .ok (c, ps))
include hj hs hjwt ha hpa hr

/-- **`Holder::verify` of a presentation.** If the JWT library accepts the JWT, the payload
declares a supported algorithm and restoration succeeds, the holder returns the header, the
stripped claims and the paths. -/
theorem Holder.verify_assemble :
    Holder.verify rt (assemble jwt strs) = .ok (header, removeDigests c, ps) := by
  have hparts := sdJwtParts_presentation jwt strs "" hj hs (by simp)
  rw [String.append_empty] at hparts
  refine (Holder.verify_ok_iff ..).mpr ⟨p, strs, alg, c, ?_, by rw [ha]; exact hpa, hr, rfl⟩
  exact (Holder.verifyRaw_ok_iff ..).mpr ⟨_, a, alg, hparts, rfl,
    by simpa [strOf, String.ofList_toList] using hjwt, ha, hpa, (strOf_toList_map strs).symm⟩

/-- **`Verifier::verify` of a presentation of an unbound token**, under either policy -/
theorem Verifier.verify_assemble (policy : Bool) (hcnf : isNullJ (jidx p "cnf") = true) :
    Verifier.verify rt (assemble jwt strs) policy = .ok (header, removeDigests c) := by
  have hparts := sdJwtParts_presentation jwt strs "" hj hs (by simp)
  rw [String.append_empty] at hparts
  refine (Verifier.verify_ok_iff ..).mpr ⟨p, strs, alg, c, ps, ?_, by rw [ha]; exact hpa, hr, rfl⟩
  exact (Verifier.verifyRaw_ok_iff ..).mpr ⟨_, a, alg, hparts,
    by simpa [strOf, String.ofList_toList] using hjwt, ha, hpa, (strOf_toList_map strs).symm,
    .inl ⟨hcnf, rfl⟩⟩

/-- **`Verifier::verify` of a presentation of a bound token**: followed by a key-binding JWT that
`verify_kb` accepts under the bound key and that commits to the presentation -/
theorem Verifier.verify_assemble_kb (kb : String) (kh kc : J)
    (hcnf : isNullJ (jidx p "cnf") = false) (hk : '~' ∉ kb.toList) (hkne : kb.toList ≠ [])
    (hv : verifyKb rt kb (jidx p "cnf") = .ok (kh, kc))
    (hh : (jidx kc "sd_hash").asStr = some (rt.hash alg (assemble jwt strs))) :
    Verifier.verify rt (assemble jwt strs ++ kb) true = .ok (header, removeDigests c) := by
  have hparts := sdJwtParts_presentation jwt strs kb hj hs hk
  rw [if_pos hkne] at hparts
  refine (Verifier.verify_ok_iff ..).mpr ⟨p, strs, alg, c, ps, ?_, by rw [ha]; exact hpa, hr, rfl⟩
  refine (Verifier.verifyRaw_ok_iff ..).mpr ⟨_, a, alg, hparts,
    by simpa [strOf, String.ofList_toList] using hjwt, ha, hpa, (strOf_toList_map strs).symm,
    .inr ⟨hcnf, _, rfl, rfl, kh, kc, by simpa [strOf, String.ofList_toList] using hv, ?_⟩⟩
  rw [dropKb_presentation jwt strs kb hk, hh]
  simp [strOf, String.ofList_toList]

end accept

end Impl
