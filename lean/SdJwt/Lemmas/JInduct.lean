import SdJwt.Data.J
/-! Structural induction over JSON values. -/

/-- induction on a value, a list of items and a list of members at once: the shape of every walk
over `J` (`check_digests`, `restore_disclosure`, `remove_digests`) -/
theorem J.induct3 {P : J → Prop} {Q : List J → Prop} {R : List (String × J) → Prop}
    (scalar : ∀ j, J.scalar j → P j) (arr : ∀ xs, Q xs → P (.arr xs)) (obj : ∀ ms, R ms → P (.obj ms))
    (nil : Q []) (cons : ∀ x r, P x → Q r → Q (x :: r))
    (mnil : R []) (mcons : ∀ k v r, P v → R r → R ((k, v) :: r)) :
    (∀ j, P j) ∧ (∀ xs, Q xs) ∧ (∀ ms, R ms) := by
  have h : ∀ j, P j := fun j =>
    J.rec (motive_1 := P) (motive_2 := Q) (motive_3 := R) (motive_4 := fun kv => P kv.2)
      (scalar _ trivial) (fun _ => scalar _ trivial) (fun _ _ => scalar _ trivial) (fun _ => scalar _ trivial)
      arr obj nil cons mnil (fun kv r => mcons kv.1 kv.2 r) (fun _ _ h => h) j
  exact ⟨h, fun xs => List.rec nil (fun x r ih => cons x r (h x) ih) xs,
    fun ms => List.rec mnil (fun kv r ih => mcons kv.1 kv.2 r (h kv.2) ih) ms⟩
