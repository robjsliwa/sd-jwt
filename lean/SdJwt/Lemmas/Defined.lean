import SdJwt.Lemmas.MarkInv
import SdJwt.Lemmas.IssuedPaths
/-!
# When marking a list of paths is defined

`markAll … = some _` is the hypothesis of the issuance theorems ("valid marking").  Here it is
derived from the conditions the property itself names: every path addresses an existing, not yet
hidden member or element, tokens that address array elements being canonical decimals
(`Addressable`), no path repeats and no later path lies inside an earlier one (`NestedFirst`), and the
digests drawn are new (the digest function is injective in its draw counter and the claims carry
none of its values).

The core is `reaches_keeps`: hiding the node at address `a` leaves every address `b` that is
neither `a` nor inside `a` addressable.
-/
open Assoc Spec Path
namespace Impl

/-! ### the child accessors after replacing / marking another child -/

theorem getClear_setClear (k t : String) (y : MJ) : (ms : MMems) →
    (ms.setClear t y).getClear k = if k = t then (ms.getClear t).map (fun _ => y) else ms.getClear k
  | .nil => by simp [MMems.setClear, MMems.getClear]
  | .clear k' x r => by
    have ih := getClear_setClear k t y r
    by_cases h1 : k' = t
    · subst h1
      by_cases h2 : k = k'
      · subst h2; simp [MMems.setClear, MMems.getClear]
      · have h2' : ¬ k' = k := fun e => h2 e.symm
        simp [MMems.setClear, MMems.getClear, h2, h2']
    · by_cases h2 : k = t
      · subst h2
        simp [MMems.setClear, MMems.getClear, h1, ih]
      · by_cases h3 : k' = k
        · subst h3; simp [MMems.setClear, MMems.getClear, h1, h2]
        · simp [MMems.setClear, MMems.getClear, h1, h2, h3, ih]
  | .marked k' dg x r => by
    simpa [MMems.setClear, MMems.getClear] using getClear_setClear k t y r

theorem getClear_toMarked_ne (k t dg : String) (hk : k ≠ t) : (ms : MMems) →
    (ms.toMarked t dg).getClear k = ms.getClear k
  | .nil => by simp [MMems.toMarked, MMems.getClear]
  | .clear k' x r => by
    have ih := getClear_toMarked_ne k t dg hk r
    by_cases h1 : k' = t
    · subst h1
      have : ¬ k' = k := fun e => hk e.symm
      simp [MMems.toMarked, MMems.getClear, this]
    · by_cases h3 : k' = k
      · subst h3; simp [MMems.toMarked, MMems.getClear, h1]
      · simp [MMems.toMarked, MMems.getClear, h1, h3, ih]
  | .marked k' dg' x r => by
    simpa [MMems.toMarked, MMems.getClear] using getClear_toMarked_ne k t dg hk r

theorem getClearAt_setClearAt (y : MJ) : (i j : Nat) → (xs : MElems) →
    (xs.setClearAt y i).getClearAt j = if j = i then (xs.getClearAt i).map (fun _ => y) else xs.getClearAt j
  | _, _, .nil => by simp [MElems.setClearAt, MElems.getClearAt]
  | 0, 0, .clear x r => by simp [MElems.setClearAt, MElems.getClearAt]
  | 0, 0, .marked dg x r => by simp [MElems.setClearAt, MElems.getClearAt]
  | 0, 0, .decoy dg r => by simp [MElems.setClearAt, MElems.getClearAt]
  | 0, j+1, .clear x r => by simp [MElems.setClearAt, MElems.getClearAt]
  | 0, j+1, .marked dg x r => by simp [MElems.setClearAt, MElems.getClearAt]
  | 0, j+1, .decoy dg r => by simp [MElems.setClearAt, MElems.getClearAt]
  | i+1, 0, .clear x r => by simp [MElems.setClearAt, MElems.getClearAt]
  | i+1, 0, .marked dg x r => by simp [MElems.setClearAt, MElems.getClearAt]
  | i+1, 0, .decoy dg r => by simp [MElems.setClearAt, MElems.getClearAt]
  | i+1, j+1, .clear x r => by simpa [MElems.setClearAt, MElems.getClearAt] using getClearAt_setClearAt y i j r
  | i+1, j+1, .marked dg x r => by simpa [MElems.setClearAt, MElems.getClearAt] using getClearAt_setClearAt y i j r
  | i+1, j+1, .decoy dg r => by simpa [MElems.setClearAt, MElems.getClearAt] using getClearAt_setClearAt y i j r

theorem getClearAt_toMarkedAt_ne (dg : String) : (i j : Nat) → j ≠ i → (xs : MElems) →
    (xs.toMarkedAt dg i).getClearAt j = xs.getClearAt j
  | _, _, _, .nil => by simp [MElems.toMarkedAt, MElems.getClearAt]
  | 0, 0, h, _ => absurd rfl h
  | 0, j+1, _, .clear x r => by simp [MElems.toMarkedAt, MElems.getClearAt]
  | 0, j+1, _, .marked dg' x r => by simp [MElems.toMarkedAt, MElems.getClearAt]
  | 0, j+1, _, .decoy dg' r => by simp [MElems.toMarkedAt, MElems.getClearAt]
  | i+1, 0, _, .clear x r => by simp [MElems.toMarkedAt, MElems.getClearAt]
  | i+1, 0, _, .marked dg' x r => by simp [MElems.toMarkedAt, MElems.getClearAt]
  | i+1, 0, _, .decoy dg' r => by simp [MElems.toMarkedAt, MElems.getClearAt]
  | i+1, j+1, h, .clear x r => by
    simpa [MElems.toMarkedAt, MElems.getClearAt] using getClearAt_toMarkedAt_ne dg i j (by omega) r
  | i+1, j+1, h, .marked dg' x r => by
    simpa [MElems.toMarkedAt, MElems.getClearAt] using getClearAt_toMarkedAt_ne dg i j (by omega) r
  | i+1, j+1, h, .decoy dg' r => by
    simpa [MElems.toMarkedAt, MElems.getClearAt] using getClearAt_toMarkedAt_ne dg i j (by omega) r

/-! ### canonical index tokens: different tokens, different indices -/

theorem canon_ne {a b : String} {i j : Nat} (ha : a = toString i) (hb : b = toString j) (h : a ≠ b) : i ≠ j := by
  intro e; subst e; exact h (ha.trans hb.symm)

/-! ### whether an address can be marked: a function of the tree alone -/

/-- a token used at an array node is the canonical decimal of the index it denotes (`1`, not `01`
or `+1`, which `usize::from_str` reads as the same index); at an object node every name is itself -/
def canonTok (t : String) : MJ → Bool
  | .arr _ => match pI t with
    | some i => decide (t = toString i)
    | none => true
  | _ => true

/-- `last` names a clear child of this node that may be hidden (not a reserved member name; an
index in canonical form) -/
def canMarkChild (last : String) : MJ → Bool
  | .obj ms _ => if last = "_sd" ∨ last = "..." then false else (ms.getClear last).isSome
  | .arr xs => match pU last with
    | none => false
    | some i => decide (last = toString i) && (xs.getClearAt i).isSome
  | .leaf _ => false

/-- `toks` leads through clear nodes to a node of which `last` is a clear child that may be hidden -/
def reaches : List String → String → MJ → Bool
  | [], last, T => canMarkChild last T
  | t :: r, last, T => canonTok t T && match T.child pI t with
    | none => false
    | some x => reaches r last x

theorem markChild_of_can (mk : Option String → J → String) (last : String) (T : MJ)
    (h : canMarkChild last T = true) : ∃ r, T.markChild pU mk last = some r := by
  cases T with
  | leaf j => simp [canMarkChild] at h
  | arr xs =>
    simp only [canMarkChild] at h
    simp only [MJ.markChild]
    cases hp : pU last with
    | none => simp [hp] at h
    | some i =>
      simp only [hp, Bool.and_eq_true] at h
      cases hg : xs.getClearAt i with
      | none => simp [hg] at h
      | some x => exact ⟨_, by simp only [hg]; rfl⟩
  | obj ms sd =>
    simp only [canMarkChild] at h
    simp only [MJ.markChild]
    by_cases hr : last = "_sd" ∨ last = "..."
    · simp [hr] at h
    · simp only [hr, if_false] at h ⊢
      cases hg : ms.getClear last with
      | none => simp [hg] at h
      | some x => exact ⟨_, by simp only [hg]; rfl⟩

theorem markIn_of_reaches (mk : Option String → J → String) (last : String) :
    (toks : List String) → (T : MJ) → reaches toks last T = true →
    ∃ r, MJ.markIn pI pU mk toks last T = some r
  | [], T, h => by simpa [MJ.markIn] using markChild_of_can mk last T (by simpa [reaches] using h)
  | t :: r, T, h => by
    simp only [reaches, Bool.and_eq_true] at h
    simp only [MJ.markIn]
    cases hc : T.child pI t with
    | none => simp [hc] at h
    | some x =>
      simp only [hc] at h
      obtain ⟨⟨x', d⟩, hm⟩ := markIn_of_reaches mk last r x h.2
      exact ⟨(MJ.setChild pI t x' T, d), by simp only [hm]⟩

/-- the address `(toks, last)` reaches, through nodes not hidden so far, a member or element not
hidden so far (and not a reserved member name), the tokens that address array elements being
canonical decimals: then `build_disclosure` succeeds on it -/
def Addressable (T : MJ) (a : List String × String) : Prop := reaches a.1 a.2 T = true

theorem addressable_markIn (mk : Option String → J → String) (T : MJ) (a : List String × String)
    (h : Addressable T a) : ∃ r, MJ.markIn pI pU mk a.1 a.2 T = some r :=
  markIn_of_reaches mk a.2 a.1 T h

/-- the digest of the disclosure made is a value of the digest function -/
theorem markIn_digest_form (mk : Option String → J → String) (last : String) (toks : List String)
    (T T' : MJ) (d : SDisc) (h : MJ.markIn pI pU mk toks last T = some (T', d)) :
    ∃ k v, d.digest = mk k v := by
  refine markIn_ind (fun _ _ d => ∃ k v, d.digest = mk k v) mk ?_ ?_ ?_ ?_ last toks T T' d h
  · intro ms sd last x _ _; exact ⟨_, _, rfl⟩
  · intro xs i x _; exact ⟨_, _, rfl⟩
  · intro ms sd t x x' d _ ih; exact ih
  · intro xs i x x' d _ ih; exact ih

/-! ### hiding one node keeps every address outside it addressable -/

theorem child_setChild_same (t : String) (x x' : MJ) (T : MJ) (h : T.child pI t = some x) :
    (MJ.setChild pI t x' T).child pI t = some x' := by
  cases T with
  | leaf j => simp [MJ.child] at h
  | arr xs =>
    simp only [MJ.child] at h
    cases hp : pI t with
    | none => simp [hp] at h
    | some i =>
      simp only [hp, Option.bind_some] at h
      simp [MJ.setChild, MJ.child, hp, getClearAt_setClearAt, h]
  | obj ms sd =>
    simp only [MJ.child] at h
    simp [MJ.setChild, MJ.child, getClear_setClear, h]

theorem canonTok_arr {t : String} {xs : MElems} {i : Nat} (h : canonTok t (.arr xs) = true)
    (hp : pI t = some i) : t = toString i := by
  simpa [canonTok, hp] using h

theorem child_setChild_ne (t t' : String) (x' : MJ) (T : MJ) (ht : canonTok t T = true)
    (ht' : canonTok t' T = true) (hne : t' ≠ t) :
    (MJ.setChild pI t x' T).child pI t' = T.child pI t' := by
  cases T with
  | leaf j => simp [MJ.child, MJ.setChild]
  | arr xs =>
    simp only [MJ.setChild]
    cases hp : pI t with
    | none => rfl
    | some i =>
      simp only [MJ.child]
      cases hp' : pI t' with
      | none => rfl
      | some j =>
        have hij : j ≠ i := canon_ne (canonTok_arr ht' hp') (canonTok_arr ht hp) hne
        simp [getClearAt_setClearAt, hij]
  | obj ms sd =>
    simp [MJ.setChild, MJ.child, getClear_setClear, hne]

theorem canonTok_setChild (t t' : String) (x' : MJ) (T : MJ) :
    canonTok t' (MJ.setChild pI t x' T) = canonTok t' T := by
  cases T with
  | leaf j => rfl
  | arr xs =>
    simp only [MJ.setChild]
    cases pI t <;> rfl
  | obj ms sd => rfl

theorem reaches_keeps (mk : Option String → J → String) (last last' : String) :
    (toks toks' : List String) → (T T1 : MJ) → (d : SDisc) →
    reaches toks last T = true →
    MJ.markIn pI pU mk toks last T = some (T1, d) →
    reaches toks' last' T = true →
    ¬ (toks ++ [last]) <+: (toks' ++ [last']) →
    reaches toks' last' T1 = true := fun toks toks' T T1 d ha h => by
  refine markIn_induct mk last (fun toks T T1 _ => reaches toks last T = true → ∀ toks',
    reaches toks' last' T = true → ¬ (toks ++ [last]) <+: (toks' ++ [last']) → reaches toks' last' T1 = true)
    ?_ ?_ ?_ ?_ toks T T1 d h ha toks'
  · -- a member is hidden: `b` is, or goes through, another member
    intro ms sd x _ _ _ toks' hb hne
    cases toks' with
    | nil =>
      have hl : last' ≠ last := fun e => hne (e ▸ List.prefix_refl _)
      simp only [reaches, canMarkChild] at hb ⊢
      rwa [getClear_toMarked_ne last' last _ hl ms]
    | cons t' r' =>
      have hl : t' ≠ last := fun e => hne (by simp [e, List.cons_prefix_cons])
      simp only [reaches, Bool.and_eq_true] at hb ⊢
      refine ⟨rfl, ?_⟩
      have : (MJ.obj (ms.toMarked last (mk (some last) x.payload)) (some (sd.getD [] ++ [mk (some last) x.payload]))).child pI t'
          = (MJ.obj ms sd).child pI t' := by simp [MJ.child, getClear_toMarked_ne t' last _ hl ms]
      rw [this]; exact hb.2
  · -- an element is hidden: canonical tokens that differ denote different positions
    intro xs i x hp _ ha toks' hb hne
    simp only [reaches, canMarkChild, hp, Bool.and_eq_true, decide_eq_true_eq] at ha
    cases toks' with
    | nil =>
      have hl : last' ≠ last := fun e => hne (e ▸ List.prefix_refl _)
      simp only [reaches, canMarkChild] at hb ⊢
      cases hp' : pU last' with
      | none => simp [hp'] at hb
      | some j =>
        simp only [hp', Bool.and_eq_true, decide_eq_true_eq] at hb ⊢
        rwa [getClearAt_toMarkedAt_ne _ i j (canon_ne hb.1 ha.1 hl) xs]
    | cons t' r' =>
      have hl : t' ≠ last := fun e => hne (by simp [e, List.cons_prefix_cons])
      simp only [reaches, Bool.and_eq_true] at hb ⊢
      refine ⟨hb.1, ?_⟩
      have : (MJ.arr (xs.toMarkedAt (mk none x.payload) i)).child pI t' = (MJ.arr xs).child pI t' := by
        simp only [MJ.child]
        cases hp' : pI t' with
        | none => rfl
        | some j => simp [getClearAt_toMarkedAt_ne _ i j (canon_ne (canonTok_arr hb.1 hp') ha.1 hl) xs]
      rw [this]; exact hb.2
  · -- something inside the member `t` is hidden
    intro ms sd t r x x' d hg ih ha toks' hb hne
    have hT : (MJ.obj ms sd).child pI t = some x := hg
    simp only [reaches, Bool.and_eq_true, hT] at ha
    cases toks' with
    | nil =>
      simp only [reaches, canMarkChild] at hb ⊢
      by_cases hr' : last' = "_sd" ∨ last' = "..."
      · simp [hr'] at hb
      · simp only [hr', if_false, getClear_setClear] at hb ⊢
        by_cases hlt : last' = t
        · subst hlt; simp [hg]
        · simpa [hlt] using hb
    | cons t' r' =>
      simp only [reaches, Bool.and_eq_true] at hb ⊢
      refine ⟨rfl, ?_⟩
      by_cases htt : t' = t
      · subst htt
        rw [show (MJ.obj (ms.setClear t' x') sd) = MJ.setChild pI t' x' (.obj ms sd) from rfl,
          child_setChild_same t' x x' _ hT]
        rw [hT] at hb
        exact ih ha.2 r' hb.2 (fun hp => hne (by simpa [List.cons_prefix_cons] using hp))
      · rw [show (MJ.obj (ms.setClear t x') sd) = MJ.setChild pI t x' (.obj ms sd) from rfl,
          child_setChild_ne t t' x' _ rfl rfl htt]
        exact hb.2
  · -- something inside the element `t` is hidden
    intro xs t r i x x' d hp hg ih ha toks' hb hne
    have hT : (MJ.arr xs).child pI t = some x := by simp [MJ.child, hp, hg]
    have hset : MJ.arr (xs.setClearAt x' i) = MJ.setChild pI t x' (.arr xs) := by simp [MJ.setChild, hp]
    simp only [reaches, Bool.and_eq_true, hT] at ha
    cases toks' with
    | nil =>
      simp only [reaches, canMarkChild] at hb ⊢
      cases hp' : pU last' with
      | none => simp [hp'] at hb
      | some j =>
        simp only [hp', Bool.and_eq_true, decide_eq_true_eq, getClearAt_setClearAt] at hb ⊢
        refine ⟨hb.1, ?_⟩
        by_cases hji : j = i
        · subst hji; simp [hg]
        · simpa [hji] using hb.2
    | cons t' r' =>
      simp only [reaches, Bool.and_eq_true] at hb ⊢
      rw [hset]
      refine ⟨by rw [canonTok_setChild]; exact hb.1, ?_⟩
      by_cases htt : t' = t
      · subst htt
        rw [child_setChild_same t' x x' _ hT]
        rw [hT] at hb
        exact ih ha.2 r' hb.2 (fun hp => hne (by simpa [List.cons_prefix_cons] using hp))
      · rw [child_setChild_ne t t' x' _ ha.1 hb.1 htt]
        exact hb.2

/-! ### a list of paths -/

/-- no path repeats and no later path lies inside an earlier one ("nested paths precede enclosing
ones") -/
def NestedFirst : List (List String × String) → Prop
  | [] => True
  | a :: r => (∀ b ∈ r, ¬ (a.1 ++ [a.2]) <+: (b.1 ++ [b.2])) ∧ NestedFirst r

/-- after marking the first address, the later ones are still addressable -/
theorem addressable_step (mk : Option String → J → String) {T T1 : MJ} {a : List String × String}
    {r : List (List String × String)} {d : SDisc} (haddr : ∀ b ∈ a :: r, Addressable T b)
    (hnf : NestedFirst (a :: r)) (hm : MJ.markIn pI pU mk a.1 a.2 T = some (T1, d)) :
    ∀ b ∈ r, Addressable T1 b := fun b hb =>
  reaches_keeps mk a.2 b.2 a.1 b.1 T T1 d (haddr a (by simp)) hm (haddr b (by simp [hb])) (hnf.1 b hb)

/-- **Valid markings are defined.**  If every address reaches an existing, not yet hidden member or
element of `T` (index tokens in canonical form), later addresses are neither equal to nor inside
earlier ones, and the digests drawn from counter `i` on are new to `T` and differ from draw to
draw, then marking the whole list is defined. -/
theorem markAll_defined (mk : Nat → Option String → J → String)
    (hmk : ∀ i j k v k' v', mk i k v = mk j k' v' → i = j) :
    (addr : List (List String × String)) → (i : Nat) → (T : MJ) →
    (∀ a ∈ addr, Addressable T a) → NestedFirst addr →
    (∀ g ∈ T.digests, ∀ j k v, i ≤ j → g ≠ mk j k v) →
    ∃ Tn ds, markAll mk i addr T = some (Tn, ds)
  | [], i, T, _, _, _ => ⟨T, [], rfl⟩
  | a :: r, i, T, haddr, hnf, hfresh => by
    obtain ⟨toks, last⟩ := a
    have ha : reaches toks last T = true := haddr (toks, last) (by simp)
    obtain ⟨⟨T1, d⟩, hm⟩ := markIn_of_reaches (mk i) last toks T ha
    obtain ⟨k, v, hd⟩ := markIn_digest_form (mk i) last toks T T1 d hm
    have hnew : d.digest ∉ T.digests := fun hin => hfresh _ hin i k v (Nat.le_refl _) hd
    obtain ⟨hhead, htail⟩ := hnf
    have haddr1 := addressable_step (mk i) haddr ⟨hhead, htail⟩ hm
    have hfresh1 : ∀ g ∈ T1.digests, ∀ j k v, i + 1 ≤ j → g ≠ mk j k v := by
      intro g hg j k' v' hj
      have := (markIn_digests (mk i) last toks T T1 d hm).subset hg
      simp only [List.mem_cons] at this
      rcases this with rfl | hin
      · intro e
        have := hmk i j k v k' v' (hd.symm.trans e)
        omega
      · exact hfresh g hin j k' v' (by omega)
    obtain ⟨Tn, ds, hrest⟩ := markAll_defined mk hmk r (i+1) T1 haddr1 htail hfresh1
    exact ⟨Tn, d :: ds, by simp [markAll, hm, hnew, hrest]⟩

/-! ### the pointers of the issued tree, without restricting member names

`markIn_paths` / `markAll_paths` ask for `CanonToks` of every token, which also excludes member
names such as `"01"`.  What they need is only that tokens used at *array* nodes are canonical —
which `reaches` says. -/

theorem canonAlong_of_reaches (last : String) : (toks : List String) → (T : MJ) →
    reaches toks last T = true → canonAlong toks last T
  | [], .arr xs, h => fun i hp => by
    simp only [reaches, canMarkChild, hp, Bool.and_eq_true, decide_eq_true_eq] at h
    exact h.1
  | [], .leaf _, _ => trivial
  | [], .obj _ _, _ => trivial
  | t :: r, T, h => by
    simp only [reaches, Bool.and_eq_true] at h
    refine ⟨fun xs e i hp => canonTok_arr (e ▸ h.1) hp, fun x hx => ?_⟩
    rw [hx] at h
    exact canonAlong_of_reaches last r x h.2

theorem markIn_paths_r (mk : Option String → J → String) (last : String) :
    (toks : List String) → (T T' : MJ) → (d : SDisc) → (p : String) → reaches toks last T = true →
    MJ.markIn pI pU mk toks last T = some (T', d) →
    (T'.paths p).Perm (((toks ++ [last]).foldl fmtPath p, d.digest) :: T.paths p) :=
  fun toks T T' d p hr h => markIn_paths_of mk last toks T T' d h (canonAlong_of_reaches last toks T hr) p

theorem markAll_paths_r (mk : Nat → Option String → J → String) :
    (addr : List (List String × String)) → (i : Nat) → (T Tn : MJ) → (ds : List SDisc) →
    (∀ a ∈ addr, Addressable T a) → NestedFirst addr → markAll mk i addr T = some (Tn, ds) →
    (Tn.paths "").Perm ((addr.map (fun a => renderPath a.1 a.2)).zip (ds.map (·.digest)) ++ T.paths "") :=
  fun addr i T Tn ds haddr hnf => markAll_paths_of mk (fun T addr => (∀ a ∈ addr, Addressable T a) ∧ NestedFirst addr)
    (fun T a _ h => canonAlong_of_reaches a.2 a.1 T (h.1 a (by simp)))
    (fun i _ _ _ _ _ h hm => ⟨addressable_step (mk i) h.1 h.2 hm, h.2.2⟩) addr i T Tn ds ⟨haddr, hnf⟩

/-- the pointers of the issued tree, as strings, are the rendered addresses given (member names
unrestricted) -/
theorem issued_pointers_r (mk : Nat → Option String → J → String) (addr : List (List String × String))
    (T Tn : MJ) (ds : List SDisc) (hclear : T.allMarks = [])
    (haddr : ∀ a ∈ addr, Addressable T a) (hnf : NestedFirst addr)
    (h : markAll mk 0 addr T = some (Tn, ds)) :
    ((Tn.paths "").map (·.1)).Perm (addr.map (fun a => renderPath a.1 a.2)) :=
  pointers_of_paths mk addr T Tn ds hclear h (markAll_paths_r mk addr 0 T Tn ds haddr hnf h)

/-! ### on claims without hidden nodes, "addressable" is "exists" -/

theorem getClear_isSome_of_no_marks (k : String) : (ms : MMems) → ms.marks = [] →
    (ms.getClear k).isSome = decide (k ∈ ms.keys)
  | .nil, _ => by simp [MMems.getClear, MMems.keys]
  | .clear k' x r, h => by
    have ih := getClear_isSome_of_no_marks k r (by simpa [MMems.marks] using h)
    by_cases e : k' = k
    · subst e; simp [MMems.getClear, MMems.keys]
    · have e' : ¬ k = k' := fun q => e q.symm
      simp [MMems.getClear, MMems.keys, e, e', ih]
  | .marked k' dg x r, h => by simp [MMems.marks] at h

/-- no element of the array is hidden or a decoy -/
def allClear : MElems → Prop
  | .nil => True
  | .clear _ r => allClear r
  | .marked _ _ _ => False
  | .decoy _ _ => False

def elemCount : MElems → Nat
  | .nil => 0
  | .clear _ r => elemCount r + 1
  | .marked _ _ r => elemCount r + 1
  | .decoy _ r => elemCount r + 1

theorem getClearAt_isSome_of_allClear : (i : Nat) → (xs : MElems) → allClear xs →
    (xs.getClearAt i).isSome = decide (i < elemCount xs)
  | _, .nil, _ => by simp [MElems.getClearAt, elemCount]
  | 0, .clear x r, _ => by simp [MElems.getClearAt, elemCount]
  | i+1, .clear x r, h => by
    simpa [MElems.getClearAt, elemCount] using getClearAt_isSome_of_allClear i r h
  | _, .marked _ _ _, h => by simp [allClear] at h
  | _, .decoy _ _, h => by simp [allClear] at h

/-- in an object none of whose members is hidden, a member can be hidden iff it exists and its
name is not reserved -/
theorem canMarkChild_obj (last : String) (ms : MMems) (sd : Option (List String)) (h : ms.marks = []) :
    canMarkChild last (.obj ms sd) = true ↔ last ∈ ms.keys ∧ last ≠ "_sd" ∧ last ≠ "..." := by
  simp only [canMarkChild]
  by_cases hr : last = "_sd" ∨ last = "..."
  · simp only [hr, if_true]
    constructor
    · intro h; cases h
    · rintro ⟨_, h1, h2⟩; rcases hr with e | e
      · exact absurd e h1
      · exact absurd e h2
  · simp only [hr, if_false, getClear_isSome_of_no_marks last ms h, decide_eq_true_eq]
    constructor
    · intro hk; exact ⟨hk, fun e => hr (.inl e), fun e => hr (.inr e)⟩
    · intro hk; exact hk.1

/-- in an array none of whose elements is hidden, an element can be hidden iff the token is the
canonical decimal of an index below the length (and below 2^64, as `usize::from_str` demands) -/
theorem canMarkChild_arr (last : String) (xs : MElems) (h : allClear xs) :
    canMarkChild last (.arr xs) = true ↔ ∃ i, pU last = some i ∧ last = toString i ∧ i < elemCount xs := by
  simp only [canMarkChild]
  cases hp : pU last with
  | none => simp
  | some i => simp [getClearAt_isSome_of_allClear i xs h]

end Impl
