import SdJwt.Lemmas.Tree
import SdJwt.Lemmas.Assoc
/-! Facts about views of marked trees: sortedness, absence of reserved keys, `revealTop`. -/
open Assoc Spec

/-- the all-hidden selector -/
abbrev noneShown : String → Bool := fun _ => false

theorem keysGt_hview (S : String → Bool) (k0 : String) :
    (ms : MMems) → ms.keysGt k0 → AllGt k0 (ms.hview S)
  | .nil, _ => trivial
  | .clear k x r, h => by
      simp only [MMems.keysGt] at h
      exact ⟨h.1, keysGt_hview S k0 r h.2⟩
  | .marked k dg x r, h => by
      simp only [MMems.keysGt] at h
      simp only [MMems.hview]
      split
      · exact ⟨h.1, keysGt_hview S k0 r h.2⟩
      · exact keysGt_hview S k0 r h.2

theorem sorted_hview (S : String → Bool) : (ms : MMems) → ms.WF → Sorted (ms.hview S)
  | .nil, _ => trivial
  | .clear k x r, wf => by
      simp only [MMems.WF] at wf
      exact ⟨keysGt_hview S k r wf.2.2.2.1, sorted_hview S r wf.2.2.2.2⟩
  | .marked k dg x r, wf => by
      simp only [MMems.WF] at wf
      simp only [MMems.hview]
      split
      · exact ⟨keysGt_hview S k r wf.2.2.2.1, sorted_hview S r wf.2.2.2.2⟩
      · exact sorted_hview S r wf.2.2.2.2

theorem aget_sd_hview (S : String → Bool) : (ms : MMems) → ms.WF → aget "_sd" (ms.hview S) = none
  | .nil, _ => rfl
  | .clear k x r, wf => by
      simp only [MMems.WF] at wf
      have : "_sd" ≠ k := fun e => wf.1 e.symm
      simp [MMems.hview, aget, this, aget_sd_hview S r wf.2.2.2.2]
  | .marked k g x r, wf => by
      simp only [MMems.WF] at wf
      have : "_sd" ≠ k := fun e => wf.1 e.symm
      simp only [MMems.hview]
      split
      · simp [aget, this, aget_sd_hview S r wf.2.2.2.2]
      · exact aget_sd_hview S r wf.2.2.2.2

/-- a key greater than… is absent: lookup of a key in a view whose keys are all greater -/
theorem aget_hview_of_keysGt (S : String → Bool) (k : String) (ms : MMems) (h : ms.keysGt k) :
    aget k (ms.hview S) = none :=
  aget_of_allGt (keysGt_hview S k ms h)

/-- extensionality of sorted association lists -/
theorem sorted_ext {α : Type} : (l1 l2 : List (String × α)) → Sorted l1 → Sorted l2 →
    (∀ k, aget k l1 = aget k l2) → l1 = l2
  | [], [], _, _, _ => rfl
  | [], (k, v) :: r, _, _, h => by have := h k; simp [aget] at this
  | (k, v) :: r, [], _, _, h => by have := h k; simp [aget] at this
  | (k1, v1) :: r1, (k2, v2) :: r2, s1, s2, h => by
    have hk : k1 = k2 := by
      rcases slt_tri k1 k2 with hlt | heq | hgt
      · exfalso
        have h1 := h k1
        have : aget k1 ((k2, v2) :: r2) = none := aget_of_allGt ⟨hlt, AllGt.mono hlt s2.1⟩
        rw [this] at h1
        simp [aget] at h1
      · exact heq
      · exfalso
        have h1 := h k2
        have : aget k2 ((k1, v1) :: r1) = none := aget_of_allGt ⟨hgt, AllGt.mono hgt s1.1⟩
        rw [this] at h1
        simp [aget] at h1
    subst hk
    have hv : v1 = v2 := by have := h k1; simpa [aget] using this
    subst hv
    have hr : r1 = r2 := by
      apply sorted_ext r1 r2 s1.2 s2.2
      intro k
      by_cases hkk : k = k1
      · subst hkk
        rw [aget_of_allGt s1.1, aget_of_allGt s2.1]
      · have := h k
        simpa [aget, hkk] using this
    rw [hr]

theorem ains_comm {α : Type} (k1 k2 : String) (v1 v2 : α) (l : List (String × α)) (hs : Sorted l)
    (hne : k1 ≠ k2) : ains k1 v1 (ains k2 v2 l) = ains k2 v2 (ains k1 v1 l) := by
  apply sorted_ext
  · exact sorted_ains _ _ _ (sorted_ains _ _ _ hs)
  · exact sorted_ains _ _ _ (sorted_ains _ _ _ hs)
  · intro k
    by_cases h1 : k = k1
    · subst h1
      rw [aget_ains_self, aget_ains_ne _ hne, aget_ains_self]
    · by_cases h2 : k = k2
      · subst h2
        rw [aget_ains_ne _ h1, aget_ains_self, aget_ains_self]
      · rw [aget_ains_ne _ h1, aget_ains_ne _ h2, aget_ains_ne _ h2, aget_ains_ne _ h1]

mutual
theorem MJ.topMarks_sub_vdigests : (T : MJ) → T.WF → ∀ g ∈ T.topMarks, g ∈ T.vdigests
  | .leaf _, _, g, h => by simp [MJ.topMarks] at h
  | .arr xs, wf, g, h => by
    simp only [MJ.WF] at wf
    simpa [MJ.vdigests] using MElems.topMarks_sub_vdigests xs wf g (by simpa [MJ.topMarks] using h)
  | .obj ms sd, wf, g, h => by
    simp only [MJ.WF] at wf
    simp only [MJ.topMarks] at h
    simp only [MJ.vdigests, List.mem_append]
    exact MMems.topMarks_sub_vdigests ms sd wf.1 wf.2.1 g h
theorem MElems.topMarks_sub_vdigests : (xs : MElems) → xs.WF → ∀ g ∈ xs.topMarks, g ∈ xs.vdigests
  | .nil, _, g, h => by simp [MElems.topMarks] at h
  | .clear x r, wf, g, h => by
    simp only [MElems.WF] at wf
    simp only [MElems.topMarks, List.mem_append] at h
    simp only [MElems.vdigests, List.mem_append]
    rcases h with h | h
    · left; exact MJ.topMarks_sub_vdigests x wf.1 g h
    · right; exact MElems.topMarks_sub_vdigests r wf.2 g h
  | .marked dg x r, wf, g, h => by
    simp only [MElems.WF] at wf
    simp only [MElems.topMarks, List.mem_cons] at h
    simp only [MElems.vdigests, List.mem_cons]
    rcases h with h | h
    · left; exact h
    · right; exact MElems.topMarks_sub_vdigests r wf.2 g h
  | .decoy dg r, wf, g, h => by
    simp only [MElems.WF] at wf
    simp only [MElems.topMarks] at h
    simp only [MElems.vdigests, List.mem_cons]
    right; exact MElems.topMarks_sub_vdigests r wf g h
/-- for members the own marks are found in the enclosing object's `sd` -/
theorem MMems.topMarks_sub_vdigests : (ms : MMems) → (sd : Option (List String)) → ms.WF →
    (∀ g, g ∈ ms.marks → g ∈ sd.getD []) → ∀ g ∈ ms.topMarks, g ∈ sd.getD [] ∨ g ∈ ms.vdigests
  | .nil, _, _, _, g, h => by simp [MMems.topMarks] at h
  | .clear k x r, sd, wf, hm, g, h => by
    simp only [MMems.WF] at wf
    simp only [MMems.topMarks, List.mem_append] at h
    simp only [MMems.vdigests, List.mem_append]
    rcases h with h | h
    · right; left; exact MJ.topMarks_sub_vdigests x wf.2.2.1 g h
    · rcases MMems.topMarks_sub_vdigests r sd wf.2.2.2.2 (fun g hg => hm g (by simpa [MMems.marks] using hg)) g h with h | h
      · left; exact h
      · right; right; exact h
  | .marked k dg x r, sd, wf, hm, g, h => by
    simp only [MMems.WF] at wf
    simp only [MMems.topMarks, List.mem_cons] at h
    simp only [MMems.vdigests]
    rcases h with h | h
    · left; exact hm g (by simp [MMems.marks, h])
    · exact MMems.topMarks_sub_vdigests r sd wf.2.2.2.2 (fun g hg => hm g (by simp [MMems.marks, hg])) g h
end

mutual
theorem MJ.revealTop_id (g : String) : (T : MJ) → g ∉ T.topMarks → T.revealTop g = T
  | .leaf _, _ => rfl
  | .arr xs, h => by simp [MJ.revealTop, MElems.revealTop_id g xs (by simpa [MJ.topMarks] using h)]
  | .obj ms sd, h => by simp [MJ.revealTop, MMems.revealTop_id g ms (by simpa [MJ.topMarks] using h)]
theorem MElems.revealTop_id (g : String) : (xs : MElems) → g ∉ xs.topMarks → xs.revealTop g = xs
  | .nil, _ => rfl
  | .clear x r, h => by
    simp only [MElems.topMarks, List.mem_append, not_or] at h
    simp [MElems.revealTop, MJ.revealTop_id g x h.1, MElems.revealTop_id g r h.2]
  | .marked dg x r, h => by
    simp only [MElems.topMarks, List.mem_cons, not_or] at h
    have : dg ≠ g := fun e => h.1 e.symm
    simp [MElems.revealTop, this, MElems.revealTop_id g r h.2]
  | .decoy dg r, h => by
    simp only [MElems.topMarks] at h
    simp [MElems.revealTop, MElems.revealTop_id g r h]
theorem MMems.revealTop_id (g : String) : (ms : MMems) → g ∉ ms.topMarks → ms.revealTop g = ms
  | .nil, _ => rfl
  | .clear k x r, h => by
    simp only [MMems.topMarks, List.mem_append, not_or] at h
    simp [MMems.revealTop, MJ.revealTop_id g x h.1, MMems.revealTop_id g r h.2]
  | .marked k dg x r, h => by
    simp only [MMems.topMarks, List.mem_cons, not_or] at h
    have : dg ≠ g := fun e => h.1 e.symm
    simp [MMems.revealTop, this, MMems.revealTop_id g r h.2]
end
