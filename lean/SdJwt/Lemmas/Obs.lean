import SdJwt.Lemmas.Tree
/-!
# List-valued observables of member and element lists

Digests, marks, disclosures, stale digests, names, paths, projections: each is the concatenation
of one piece per member (element).  Replacing or marking a clear member (element) changes the one
piece of that member; this is proved once, for every such observable, and the facts about
`setClear` / `toMarked` / `setClearAt` / `toMarkedAt` are read off.
-/
open Spec

/-- an observable of member lists that concatenates one piece per member -/
structure MObs {α : Type} (fM : MMems → List α) (clr : String → MJ → List α)
    (mrk : String → String → MJ → List α) : Prop where
  nil : fM .nil = []
  clear : ∀ k x r, fM (.clear k x r) = clr k x ++ fM r
  marked : ∀ k dg x r, fM (.marked k dg x r) = mrk k dg x ++ fM r

/-- **At a clear member the list splits**: the observable of the list, of the list with that
member replaced, and of the list with that member marked differ in the piece of that member only -/
theorem MObs.at_clear {α : Type} {fM : MMems → List α} {clr : String → MJ → List α}
    {mrk : String → String → MJ → List α} (o : MObs fM clr mrk) (k : String) (x : MJ) :
    (ms : MMems) → ms.getClear k = some x →
    ∃ l1 l2, fM ms = l1 ++ clr k x ++ l2 ∧ (∀ y, fM (ms.setClear k y) = l1 ++ clr k y ++ l2) ∧
      ∀ dg, fM (ms.toMarked k dg) = l1 ++ mrk k dg x ++ l2
  | .nil, h => by simp [MMems.getClear] at h
  | .clear k' x' r, h => by
    simp only [MMems.getClear] at h
    by_cases hk : k' = k
    · simp only [hk, if_true, Option.some.injEq] at h
      subst hk h
      exact ⟨[], fM r, by simp [o.clear], by simp [MMems.setClear, o.clear], by simp [MMems.toMarked, o.marked]⟩
    · simp only [hk, if_false] at h
      obtain ⟨l1, l2, e1, e2, e3⟩ := o.at_clear k x r h
      exact ⟨clr k' x' ++ l1, l2, by simp [o.clear, e1], by simp [MMems.setClear, hk, o.clear, e2],
        by simp [MMems.toMarked, hk, o.clear, e3]⟩
  | .marked k' dg' x' r, h => by
    simp only [MMems.getClear] at h
    obtain ⟨l1, l2, e1, e2, e3⟩ := o.at_clear k x r h
    exact ⟨mrk k' dg' x' ++ l1, l2, by simp [o.marked, e1], by simp [MMems.setClear, o.marked, e2],
      by simp [MMems.toMarked, o.marked, e3]⟩

/-- the same for element lists -/
structure EObs {α : Type} (fE : MElems → List α) (clr : MJ → List α) (mrk : String → MJ → List α)
    (dec : String → List α) : Prop where
  nil : fE .nil = []
  clear : ∀ x r, fE (.clear x r) = clr x ++ fE r
  marked : ∀ dg x r, fE (.marked dg x r) = mrk dg x ++ fE r
  decoy : ∀ dg r, fE (.decoy dg r) = dec dg ++ fE r

theorem EObs.at_clear {α : Type} {fE : MElems → List α} {clr : MJ → List α} {mrk : String → MJ → List α}
    {dec : String → List α} (o : EObs fE clr mrk dec) (x : MJ) :
    (i : Nat) → (xs : MElems) → xs.getClearAt i = some x →
    ∃ l1 l2, fE xs = l1 ++ clr x ++ l2 ∧ (∀ y, fE (xs.setClearAt y i) = l1 ++ clr y ++ l2) ∧
      ∀ dg, fE (xs.toMarkedAt dg i) = l1 ++ mrk dg x ++ l2
  | _, .nil, h => by simp [MElems.getClearAt] at h
  | 0, .clear x' r, h => by
    simp only [MElems.getClearAt, Option.some.injEq] at h; subst h
    exact ⟨[], fE r, by simp [o.clear], by simp [MElems.setClearAt, o.clear], by simp [MElems.toMarkedAt, o.marked]⟩
  | 0, .marked _ _ _, h => by simp [MElems.getClearAt] at h
  | 0, .decoy _ _, h => by simp [MElems.getClearAt] at h
  | i+1, .clear x' r, h => by
    obtain ⟨l1, l2, e1, e2, e3⟩ := o.at_clear x i r (by simpa [MElems.getClearAt] using h)
    exact ⟨clr x' ++ l1, l2, by simp [o.clear, e1], by simp [MElems.setClearAt, o.clear, e2],
      by simp [MElems.toMarkedAt, o.clear, e3]⟩
  | i+1, .marked dg' x' r, h => by
    obtain ⟨l1, l2, e1, e2, e3⟩ := o.at_clear x i r (by simpa [MElems.getClearAt] using h)
    exact ⟨mrk dg' x' ++ l1, l2, by simp [o.marked, e1], by simp [MElems.setClearAt, o.marked, e2],
      by simp [MElems.toMarkedAt, o.marked, e3]⟩
  | i+1, .decoy dg' r, h => by
    obtain ⟨l1, l2, e1, e2, e3⟩ := o.at_clear x i r (by simpa [MElems.getClearAt] using h)
    exact ⟨dec dg' ++ l1, l2, by simp [o.decoy, e1], by simp [MElems.setClearAt, o.decoy, e2],
      by simp [MElems.toMarkedAt, o.decoy, e3]⟩

theorem perm_insert_mid {α : Type} (a : α) (l1 m l2 : List α) :
    (l1 ++ (a :: m) ++ l2).Perm (a :: (l1 ++ m ++ l2)) := by
  simp only [List.append_assoc, List.cons_append]
  exact List.perm_middle

/-- a new entry in the middle piece is a new entry of the whole -/
theorem List.Perm.in_mid {α : Type} {a : α} {m m' : List α} (h : m'.Perm (a :: m)) (l1 l2 : List α) :
    (l1 ++ m' ++ l2).Perm (a :: (l1 ++ m ++ l2)) :=
  ((h.append_left l1).append_right l2).trans (perm_insert_mid a l1 m l2)

namespace Obs
/-! the observables -/
theorem keys : MObs MMems.keys (fun k _ => [k]) (fun k _ _ => [k]) := ⟨rfl, fun _ _ _ => rfl, fun _ _ _ _ => rfl⟩
theorem marks : MObs MMems.marks (fun _ _ => []) (fun _ dg _ => [dg]) := ⟨rfl, fun _ _ _ => rfl, fun _ _ _ _ => rfl⟩
theorem digests : MObs MMems.digests (fun _ x => x.digests) (fun _ _ x => x.digests) :=
  ⟨rfl, fun _ _ _ => rfl, fun _ _ _ _ => rfl⟩
theorem discs : MObs MMems.discs (fun _ x => x.discs) (fun k dg x => ⟨dg, some k, x.payload⟩ :: x.discs) :=
  ⟨rfl, fun _ _ _ => rfl, fun _ _ _ _ => rfl⟩
theorem allMarks : MObs MMems.allMarks (fun _ x => x.allMarks) (fun _ dg x => dg :: x.allMarks) :=
  ⟨rfl, fun _ _ _ => rfl, fun _ _ _ _ => rfl⟩
theorem deepStale : MObs MMems.deepStale (fun _ x => x.deepStale) (fun _ _ x => x.deepStale) :=
  ⟨rfl, fun _ _ _ => rfl, fun _ _ _ _ => rfl⟩
theorem project (S : String → Bool) : MObs (MMems.project S) (fun k x => [(k, x.project S)])
    (fun k dg x => if S dg then [(k, x.project S)] else []) :=
  ⟨rfl, fun _ _ _ => rfl, fun _ dg _ _ => by by_cases h : S dg <;> simp [MMems.project, h]⟩
theorem paths (p : String) : MObs (MMems.paths p) (fun k x => x.paths (Path.fmtPath p k))
    (fun k dg x => (Path.fmtPath p k, dg) :: x.paths (Path.fmtPath p k)) :=
  ⟨rfl, fun _ _ _ => rfl, fun _ _ _ _ => rfl⟩

theorem digestsE : EObs MElems.digests (fun x => x.digests) (fun dg x => dg :: x.digests) (fun dg => [dg]) :=
  ⟨rfl, fun _ _ => rfl, fun _ _ _ => rfl, fun _ _ => rfl⟩
theorem discsE : EObs MElems.discs (fun x => x.discs) (fun dg x => ⟨dg, none, x.payload⟩ :: x.discs) (fun _ => []) :=
  ⟨rfl, fun _ _ => rfl, fun _ _ _ => rfl, fun _ _ => rfl⟩
theorem allMarksE : EObs MElems.allMarks (fun x => x.allMarks) (fun dg x => dg :: x.allMarks) (fun _ => []) :=
  ⟨rfl, fun _ _ => rfl, fun _ _ _ => rfl, fun _ _ => rfl⟩
theorem deepStaleE : EObs MElems.deepStale (fun x => x.deepStale) (fun _ x => x.deepStale) (fun dg => [dg]) :=
  ⟨rfl, fun _ _ => rfl, fun _ _ _ => rfl, fun _ _ => rfl⟩
theorem projectE (S : String → Bool) : EObs (MElems.project S) (fun x => [x.project S])
    (fun dg x => if S dg then [x.project S] else []) (fun _ => []) :=
  ⟨rfl, fun _ _ => rfl, fun dg _ _ => by by_cases h : S dg <;> simp [MElems.project, h], fun _ _ => rfl⟩
end Obs
