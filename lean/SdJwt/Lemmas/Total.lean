import SdJwt.Impl.Restore
import SdJwt.Impl.Parts
/-! Totality (no `panic` outcome) of the modelled string splitters and of restoration.
Every fact is stated as `f x ≠ .panic` (which is what `(f x).NoPanic` unfolds to) and is a simp
lemma: a case split on a callee's result then leaves `g y = .panic` among the hypotheses, which
`simp_all` refutes by the callee's fact. -/
open Assoc Outcome
namespace Impl

theorem splitOn_ne_nil (c : Char) (s : List Char) : splitOn c s ≠ [] := by
  fun_induction splitOn c s <;> simp_all

@[simp] theorem sdJwtParts_noPanic (s : List Char) : sdJwtParts s ≠ .panic := by
  simp only [sdJwtParts]; split
  · exact absurd ‹_› (splitOn_ne_nil _ _)
  · simp

@[simp] theorem getJwtPart_noPanic (s : List Char) (p : JwtPart) : getJwtPart s p ≠ .panic := by
  fun_cases getJwtPart s p <;> simp

@[simp] theorem fromBase64_noPanic (env : Env) (s : String) : fromBase64 env s ≠ .panic := by
  fun_cases fromBase64 env s <;> simp

@[simp] theorem note_noPanic (seen : List String) (g : String) : note seen g ≠ .panic := by
  fun_cases note seen g <;> simp

@[simp] theorem noteAll_noPanic (gs seen : List String) : noteAll gs seen ≠ .panic := by
  fun_induction noteAll gs seen <;> simp_all

@[simp] theorem phNote_noPanic (x : J) (seen : List String) : phNote x seen ≠ .panic := by
  fun_cases phNote x seen <;> simp

@[simp] theorem checkDigests_noPanic (j : J) (seen : List String) : checkDigests j seen ≠ .panic := by
  apply checkDigests.induct
    (motive_1 := fun ms seen => checkDigests.checkM ms seen ≠ .panic)
    (motive_2 := fun j seen => checkDigests j seen ≠ .panic)
    (motive_3 := fun xs seen => checkDigests.checkL xs seen ≠ .panic)
  all_goals intros
  all_goals simp only [checkDigests, checkDigests.checkM, checkDigests.checkL, *]
  all_goals simp
  all_goals simp_all

@[simp] theorem sdContains_noPanic (sd : J) (g : String) : sdContains sd g ≠ .panic := by
  fun_cases sdContains sd g <;> simp

@[simp] theorem ownSd_noPanic (d : Disc) (ms : List (String × J)) : ownSd d ms ≠ .panic := by
  fun_cases ownSd d ms <;> simp_all

@[simp] theorem elemHit_noPanic (d : Disc) (x : J) : elemHit d x ≠ .panic := by
  fun_cases elemHit d x <;> simp

@[simp] theorem restoreOne_noPanic (d : Disc) (p : String) (j : J) : restoreOne d p j ≠ .panic := by
  apply restoreOne.induct d
    (motive_1 := fun p ms => restoreOne.restoreM d p ms ≠ .panic)
    (motive_2 := fun p j => restoreOne d p j ≠ .panic)
    (motive_3 := fun p i xs => restoreOne.restoreL d p i xs ≠ .panic)
  all_goals intros
  all_goals simp only [restoreOne, restoreOne.restoreM, restoreOne.restoreL, *]
  all_goals simp
  all_goals simp_all

@[simp] theorem roundOnce_noPanic (c : J) (ds : List Disc) : roundOnce c ds ≠ .panic := by
  fun_induction roundOnce c ds <;> simp_all

@[simp] theorem rounds_noPanic (n : Nat) (c : J) (ds : List Disc) (acc : List PathEntry) :
    rounds n c ds acc ≠ .panic := by
  fun_induction rounds n c ds acc <;> simp_all

@[simp] theorem checkValues_noPanic (ds : List Disc) (seen : List String) : checkValues ds seen ≠ .panic := by
  fun_induction checkValues ds seen <;> simp_all

@[simp] theorem restoreDecoded_noPanic (c : J) (ds : List Disc) : restoreDecoded c ds ≠ .panic := by
  fun_cases restoreDecoded c ds <;> simp_all

@[simp] theorem decodeAll_noPanic (env : Env) (ss : List String) (acc : List Disc) :
    decodeAll env ss acc ≠ .panic := by
  fun_induction decodeAll env ss acc <;> simp_all

@[simp] theorem restoreAll_noPanic (env : Env) (c : J) (ss : List String) : restoreAll env c ss ≠ .panic := by
  fun_cases restoreAll env c ss <;> simp_all

end Impl
