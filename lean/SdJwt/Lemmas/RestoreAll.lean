import SdJwt.Lemmas.Rounds
import SdJwt.Lemmas.Reject
/-! T-restore assembled: from presented strings to the projection. -/
open Assoc Spec
namespace Impl

theorem fromBase64_ok (env : Env) (s : String) (d : Disc) (h : fromBase64 env s = .ok d) :
    d.digest = env.hash s ∧ d.str = s := by
  revert h
  fun_cases fromBase64 env s <;> rintro ⟨⟩ <;> exact ⟨rfl, rfl⟩

theorem fromBase64_digest (env : Env) (s : String) (d : Disc) (h : fromBase64 env s = .ok d) :
    d.digest = env.hash s :=
  (fromBase64_ok env s d h).1

theorem decodeAll_cons_ok {env : Env} {s : String} {r : List String} {acc ds : List Disc} :
    decodeAll env (s :: r) acc = .ok ds ↔ ∃ d, fromBase64 env s = .ok d ∧
      acc.any (fun d' => d'.digest = d.digest) = false ∧ decodeAll env r (d :: acc) = .ok ds := by
  rw [decodeAll]
  cases fromBase64 env s with
  | ok d => dsimp only; cases h : acc.any (fun d' => d'.digest = d.digest) <;> simp [h, -List.any_eq_false]
  | _ => simp

/-- a successful decoding of the list yields disclosures with pairwise distinct digests, one per
presented string, in order -/
theorem decodeAll_ok (env : Env) : (ss : List String) → (acc ds : List Disc) →
    decodeAll env ss acc = .ok ds → Distinct acc.reverse →
    Distinct ds ∧ (∀ d ∈ ds, d ∈ acc ∨ ∃ s ∈ ss, fromBase64 env s = .ok d) ∧
    (∀ s ∈ ss, ∃ d ∈ ds, fromBase64 env s = .ok d) ∧ (∀ d ∈ acc, d ∈ ds)
  | [], acc, ds, h, hacc => by
    cases h
    exact ⟨hacc, fun _ h => .inl (List.mem_reverse.mp h), nofun, fun _ h => List.mem_reverse.mpr h⟩
  | s :: r, acc, ds, h, hacc => by
    obtain ⟨d, hf, hnot, h⟩ := decodeAll_cons_ok.mp h
    have hacc' : Distinct (d :: acc).reverse := by
      simp only [List.any_eq_false, decide_eq_true_eq] at hnot
      simpa [Distinct, List.pairwise_append] using ⟨hacc, hnot⟩
    obtain ⟨h1, h2, h3, h4⟩ := decodeAll_ok env r (d :: acc) ds h hacc'
    refine ⟨h1, fun x hx => ?_, ?_, fun x hx => h4 x (.tail _ hx)⟩
    · rcases h2 x hx with hh | ⟨s', hs', hd'⟩
      · rcases List.mem_cons.mp hh with rfl | hh
        · exact .inr ⟨s, .head _, hf⟩
        · exact .inl hh
      · exact .inr ⟨s', .tail _ hs', hd'⟩
    · exact List.forall_mem_cons.mpr ⟨⟨d, h4 d (.head _), hf⟩, h3⟩

theorem decodeAll_nil_ok {env : Env} {ss : List String} {ds : List Disc} (h : decodeAll env ss [] = .ok ds) :
    Distinct ds ∧ (∀ d ∈ ds, ∃ s ∈ ss, fromBase64 env s = .ok d) ∧
    (∀ s ∈ ss, ∃ d ∈ ds, fromBase64 env s = .ok d) :=
  have ⟨h1, h2, h3, _⟩ := decodeAll_ok env ss [] ds h List.Pairwise.nil
  ⟨h1, fun d hd => (h2 d hd).resolve_left List.not_mem_nil, h3⟩

/-- the digests of the decoded disclosures are the hashes of the presented strings -/
theorem decodeAll_selector {env : Env} {ss : List String} {ds : List Disc} (h : decodeAll env ss [] = .ok ds) :
    (fun g => ds.any fun d => d.digest = g) = fun g => ss.any fun s => env.hash s = g := by
  obtain ⟨_, hfrom, hto⟩ := decodeAll_nil_ok h
  funext g
  apply Bool.eq_iff_iff.mpr
  simp only [List.any_eq_true, decide_eq_true_eq]
  constructor
  · rintro ⟨d, hd, hdg⟩
    obtain ⟨s, hs, hf⟩ := hfrom d hd
    exact ⟨s, hs, fromBase64_digest env s d hf ▸ hdg⟩
  · rintro ⟨s, hs, hsg⟩
    obtain ⟨d, hd, hf⟩ := hto s hs
    exact ⟨d, hd, fromBase64_digest env s d hf ▸ hsg⟩

/-- a presented string that does not decode to a well-formed disclosure makes the whole
restoration fail, wherever it stands in the list and whether or not it is referenced -/
theorem restoreAll_err_of_bad_disclosure (env : Env) (claims : J) (ss : List String) (s : String)
    (hs : s ∈ ss) (hbad : ∀ d, fromBase64 env s ≠ .ok d) : ∃ e, restoreAll env claims ss = .err e :=
  Outcome.err_of_not_ok (restoreAll_noPanic env claims ss) fun _ h =>
    have ⟨_, hd, _⟩ := restoreAll_ok_iff.mp h
    have ⟨d, _, hf⟩ := (decodeAll_nil_ok hd).2.2 s hs
    hbad d hf

/-- **T-restore.** For a conformant tree `T` (well formed, all digests distinct) and ANY list of
presented strings whose decodable members are acceptable for `T` (agree with the tree's node of
the same digest — collision resistance —, do not collide with a decoy): restoration either
fails, or yields claims that strip to the original claims with exactly the marked nodes present
whose digest — and whose enclosing marked nodes' digests — are hashes of presented strings. -/
theorem restoreAll_sound (env : Env) (T : MJ) (strs : List String) (inv : TreeInv T)
    (hacc : ∀ s ∈ strs, ∀ d, fromBase64 env s = .ok d → DOk T d) :
    (∃ e, restoreAll env T.payload strs = .err e) ∨
    ∃ c ps, restoreAll env T.payload strs = .ok (c, ps) ∧
      removeAll c = T.project (fun h => strs.any (fun s => env.hash s = h)) := by
  cases hres : restoreAll env T.payload strs with
  | panic => exact absurd hres (restoreAll_noPanic env T.payload strs)
  | err e => exact .inl ⟨e, rfl⟩
  | ok r =>
    obtain ⟨L, hL, hr⟩ := restoreAll_ok_iff.mp hres
    obtain ⟨hdist, hfrom, _⟩ := decodeAll_nil_ok hL
    obtain ⟨c, ps, hr', hp⟩ := rounds_project T L inv
      (fun d hd => have ⟨s, hs, hf⟩ := hfrom d hd; hacc s hs d hf) hdist
    cases hr'.symm.trans (restoreDecoded_ok_iff.mp hr).2.2
    exact .inr ⟨c, ps, rfl, decodeAll_selector hL ▸ hp⟩

/-- `remove_digests` = `remove_all_digests` after dropping the top-level `_sd_alg` -/
theorem removeM_adel (k : String) (hk : k ≠ "_sd") : (ms : List (String × J)) →
    removeAll.removeM (adel k ms) = adel k (removeAll.removeM ms)
  | [] => rfl
  | (k', v) :: r => by
    by_cases h1 : k = k'
    · subst h1
      simp [adel, removeAll.removeM, hk]
    · by_cases h2 : k' = "_sd"
      · subst h2
        simp [adel, hk, removeAll.removeM, removeM_adel k hk r]
      · simp [adel, h1, removeAll.removeM, h2, removeM_adel k hk r]

theorem removeDigests_obj (ms : List (String × J)) :
    removeDigests (.obj ms) = .obj (adel "_sd_alg" (removeAll.removeM ms)) := by
  simp [removeDigests, removeAll, removeM_adel "_sd_alg" (by decide)]

end Impl
