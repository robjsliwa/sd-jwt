import SdJwt.Lemmas.Issue
import SdJwt.Lemmas.Strings
/-! T-issue for a list of paths, and JSON-pointer parsing of rendered paths. -/
open Assoc Spec
namespace Impl

/-- the path string `path` addresses the child `last` of the node reached by `toks` -/
def Parsed (path : String) (toks : List String) (last : String) : Prop :=
  ∃ pp el, parentElem path.toList = .ok (pp, el) ∧ pointerToks pp = some toks ∧
    String.ofList (unescapeTok el) = last

def ParsedAll : List String → List (List String × String) → Prop
  | [], [] => True
  | p :: ps, (toks, last) :: r => Parsed p toks last ∧ ParsedAll ps r
  | _, _ => False

/-- marking a list of addressed nodes one after another (each digest new to the tree) -/
def markAll (mk : Nat → Option String → J → String) : Nat → List (List String × String) → MJ →
    Option (MJ × List SDisc)
  | _, [], T => some (T, [])
  | i, (toks, last) :: r, T =>
    match MJ.markIn pI pU (mk i) toks last T with
    | none => none
    | some (T1, d) =>
      if d.digest ∈ T.digests then none
      else match markAll mk (i+1) r T1 with
        | none => none
        | some (T2, ds) => some (T2, d :: ds)

/-- **Induction along `markAll`**: nothing to do for no address; for one more address a defined
`markIn` whose digest is new to the tree, followed by the rest -/
theorem markAll_induct (mk : Nat → Option String → J → String)
    (P : Nat → List (List String × String) → MJ → MJ → List SDisc → Prop)
    (hnil : ∀ i T, P i [] T T [])
    (hcons : ∀ i toks last r T T1 Tn d ds, MJ.markIn pI pU (mk i) toks last T = some (T1, d) →
      d.digest ∉ T.digests → markAll mk (i+1) r T1 = some (Tn, ds) → P (i+1) r T1 Tn ds →
      P i ((toks, last) :: r) T Tn (d :: ds)) :
    (addr : List (List String × String)) → (i : Nat) → (T Tn : MJ) → (ds : List SDisc) →
    markAll mk i addr T = some (Tn, ds) → P i addr T Tn ds
  | [], i, T, Tn, ds, h => by
    simp only [markAll, Option.some.injEq, Prod.mk.injEq] at h
    obtain ⟨rfl, rfl⟩ := h
    exact hnil i T
  | (toks, last) :: r, i, T, Tn, ds, h => by
    simp only [markAll] at h
    cases hm : MJ.markIn pI pU (mk i) toks last T with
    | none => simp [hm] at h
    | some res =>
      obtain ⟨T1, d⟩ := res
      simp only [hm] at h
      by_cases hf : d.digest ∈ T.digests
      · simp [hf] at h
      · simp only [hf, if_false] at h
        cases ha : markAll mk (i+1) r T1 with
        | none => simp [ha] at h
        | some res2 =>
          obtain ⟨T2, ds2⟩ := res2
          simp only [ha, Option.some.injEq, Prod.mk.injEq] at h
          obtain ⟨rfl, rfl⟩ := h
          exact hcons i toks last r T T1 T2 d ds2 hm hf ha (markAll_induct mk P hnil hcons r (i+1) T1 T2 ds2 ha)

def toSrc (d : SDisc) : DiscSrc := ⟨d.key, d.value, d.digest⟩

/-- **T-issue.** If marking the addressed nodes in the given order is defined on `T` (each path
reaches, through nodes not hidden so far, a node not hidden so far: nested paths before enclosing
ones, no repeats; each digest new), then the issuer model's working copy after all paths is the
payload of the marked tree, the recorded disclosures are the marked nodes' disclosures in path
order, the marked tree is conformant, and it stands for the same claims. -/
theorem applyPaths_markAll (mk : Nat → Option String → J → String) :
    (paths : List String) → (addr : List (List String × String)) → (i : Nat) → (T Tn : MJ) →
    (ds : List SDisc) → T.WF → ParsedAll paths addr → markAll mk i addr T = some (Tn, ds) →
    applyPaths mk i T.payload paths = .ok (Tn.payload, ds.map toSrc) ∧ Tn.WF ∧ Tn.plain = T.plain := by
  intro paths addr i T Tn ds wf hp h
  revert paths wf
  refine markAll_induct mk (fun i addr T Tn ds => ∀ paths, T.WF → ParsedAll paths addr →
    applyPaths mk i T.payload paths = .ok (Tn.payload, ds.map toSrc) ∧ Tn.WF ∧ Tn.plain = T.plain)
    ?_ ?_ addr i T Tn ds h
  · intro i T paths wf hp
    cases paths with
    | nil => exact ⟨by simp [applyPaths], wf, rfl⟩
    | cons _ _ => simp [ParsedAll] at hp
  · intro i toks last r T T1 Tn d ds hm hf _ ih paths wf hp
    cases paths with
    | nil => simp [ParsedAll] at hp
    | cons p ps =>
      obtain ⟨⟨pp, el, h1, h2, h3⟩, hrest⟩ := hp
      obtain ⟨ih1, ih2, ih3⟩ := ih ps (markIn_wf (mk i) last toks T T1 d wf hm (fun g hg => hg ▸ hf)) hrest
      refine ⟨?_, ih2, ih3.trans (markIn_plain (mk i) last toks T T1 d hm)⟩
      simp [applyPaths, buildDisclosure, h1, h2, h3, updateAt_markIn (mk i) last toks T T1 d wf hm, ih1, toSrc]

/-! ### rendered JSON pointers parse back -/

def escape0 : List Char → List Char
  | [] => []
  | c :: r => if c = '~' then '~' :: '0' :: escape0 r else c :: escape0 r

theorem replacePair_cons_ne (a b r x : Char) (hx : x ≠ a) : (l : List Char) →
    replacePair a b r (x :: l) = x :: replacePair a b r l
  | [] => by simp [replacePair]
  | y :: t => by simp [replacePair, hx]

theorem pass1 : (cs : List Char) → replacePair '~' '1' '/' (Path.escapeL cs) = escape0 cs
  | [] => by simp [Path.escapeL, escape0, replacePair]
  | c :: r => by
    by_cases h1 : c = '~'
    · subst h1
      have : replacePair '~' '1' '/' ('~' :: '0' :: Path.escapeL r) =
          '~' :: replacePair '~' '1' '/' ('0' :: Path.escapeL r) := by
        simp [replacePair]
      simp [Path.escapeL, escape0, this, replacePair_cons_ne '~' '1' '/' '0' (by decide), pass1 r]
    · by_cases h2 : c = '/'
      · subst h2
        simp [Path.escapeL, escape0, replacePair, pass1 r]
      · simp [Path.escapeL, escape0, h1, h2, replacePair_cons_ne _ _ _ c h1, pass1 r]

theorem pass2 : (cs : List Char) → replacePair '~' '0' '~' (escape0 cs) = cs
  | [] => by simp [escape0, replacePair]
  | c :: r => by
    by_cases h1 : c = '~'
    · subst h1; simp [escape0, replacePair, pass2 r]
    · simp [escape0, h1, replacePair_cons_ne _ _ _ c h1, pass2 r]

/-- `unescape (escape k) = k` for every claim name, also names containing `/` and `~` (D20) -/
theorem unescape_escape (cs : List Char) : unescapeTok (Path.escapeL cs) = cs := by
  simp [unescapeTok, pass1, pass2]

theorem escapeL_no_slash : (cs : List Char) → '/' ∉ Path.escapeL cs
  | [] => by simp [Path.escapeL]
  | c :: r => by
    have ih := escapeL_no_slash r
    by_cases h1 : c = '~'
    · simp [Path.escapeL, h1, ih]
    · by_cases h2 : c = '/'
      · simp [Path.escapeL, h2, ih]
      · simp only [Path.escapeL, h1, h2, if_false, List.mem_cons, not_or]
        exact ⟨fun e => h2 e.symm, ih⟩

/-- render reference tokens (already escaped) as a JSON pointer -/
def renderL : List (List Char) → List Char
  | [] => []
  | e :: r => '/' :: e ++ renderL r

theorem splitOn_cons_sep (c : Char) (t : List Char) : splitOn c (c :: t) = [] :: splitOn c t := by
  simp [splitOn]

theorem splitOn_prefix (c : Char) : (e t : List Char) → c ∉ e → splitOn c (e ++ c :: t) = e :: splitOn c t
  | [], t, _ => by simp [splitOn]
  | x :: e, t, h => by
    have hx : x ≠ c := fun eq => h (by simp [eq])
    have he : c ∉ e := fun m => h (by simp [m])
    simp [splitOn, hx, splitOn_prefix c e t he]

theorem splitOn_renderL : (es : List (List Char)) → (∀ e ∈ es, '/' ∉ e) → es ≠ [] →
    splitOn '/' (renderL es) = [] :: es
  | [], _, h => absurd rfl h
  | [e], hno, _ => by
    simp [renderL, splitOn_cons_sep, splitOn_of_not_mem '/' e (hno e (by simp))]
  | e :: e2 :: r, hno, _ => by
    have ih := splitOn_renderL (e2 :: r) (fun x hx => hno x (by simp [hx])) (by simp)
    simp only [renderL, List.cons_append] at ih ⊢
    rw [splitOn_cons_sep, splitOn_prefix '/' e _ (hno e (by simp))]
    rw [splitOn_cons_sep] at ih
    simp only [List.cons.injEq, true_and] at ih
    rw [ih]

theorem joinWith_flatten (c : Char) : (es : List (List Char)) → (a : List Char) →
    joinWith c (a :: es) = a ++ (es.map (c :: ·)).flatten
  | [], a => by simp [joinWith]
  | b :: r, a => by simp [joinWith, joinWith_flatten c r b]

theorem renderL_flatten : (es : List (List Char)) → renderL es = (es.map ('/' :: ·)).flatten
  | [] => rfl
  | e :: r => by simp [renderL, renderL_flatten r]

theorem joinWith_nil_cons (es : List (List Char)) : joinWith '/' ([] :: es) = renderL es := by
  rw [joinWith_flatten, renderL_flatten]; rfl

/-- the JSON pointer of the node named `last` below the nodes named `toks` -/
def renderPath (toks : List String) (last : String) : String :=
  String.ofList (renderL ((toks ++ [last]).map (fun k => Path.escapeL k.toList)))

/-- **Rendered pointers parse back**: for ALL names — empty, numeric-looking, containing `/` or
`~` — the issuer's parsing of the rendered pointer yields the parent's reference tokens and the
last name (D20). -/
theorem parsed_renderPath (toks : List String) (last : String) : Parsed (renderPath toks last) toks last := by
  unfold Parsed renderPath
  have hno : ∀ e ∈ (toks ++ [last]).map (fun k => Path.escapeL k.toList), '/' ∉ e := by
    intro e he
    simp only [List.mem_map] at he
    obtain ⟨k, _, rfl⟩ := he
    exact escapeL_no_slash _
  have hne : (toks ++ [last]).map (fun k => Path.escapeL k.toList) ≠ [] := by simp
  have hsplit := splitOn_renderL _ hno hne
  refine ⟨renderL (toks.map (fun k => Path.escapeL k.toList)), Path.escapeL last.toList, ?_, ?_, ?_⟩
  · simp only [parentElem, String.toList_ofList, hsplit]
    simp only [List.map_append, List.map_cons, List.map_nil, List.reverse_cons, List.reverse_append,
      List.reverse_nil, List.nil_append, List.singleton_append, List.cons_append]
    cases hr : (toks.map (fun k => Path.escapeL k.toList)).reverse with
    | nil =>
      have : toks.map (fun k => Path.escapeL k.toList) = [] := by simpa using hr
      simp [this, renderL, joinWith]
    | cons a t =>
      have hj := joinWith_nil_cons (toks.map (fun k => Path.escapeL k.toList))
      have hrev : (a :: t).reverse = toks.map (fun k => Path.escapeL k.toList) := by
        rw [← hr]; simp
      simp only [List.reverse_cons] at hrev
      simp [hrev, hj]
  · cases toks with
    | nil => simp [renderL, pointerToks]
    | cons t r =>
      have hno' : ∀ e ∈ (t :: r).map (fun k => Path.escapeL k.toList), '/' ∉ e := by
        intro e he
        simp only [List.mem_map] at he
        obtain ⟨k, _, rfl⟩ := he
        exact escapeL_no_slash _
      have hs := splitOn_renderL ((t :: r).map (fun k => Path.escapeL k.toList)) hno' (by simp)
      simp only [List.map_cons, renderL, List.cons_append] at hs ⊢
      rw [splitOn_cons_sep] at hs
      simp only [List.cons.injEq, true_and] at hs
      simp only [pointerToks, hs, List.map_cons, List.map_map, Option.some.injEq, List.cons.injEq]
      refine ⟨by simp [unescape_escape, String.ofList_toList], ?_⟩
      apply List.ext_getElem
      · simp
      · intro i h1 h2
        simp [unescape_escape, String.ofList_toList]
  · simp [unescape_escape, String.ofList_toList]

end Impl
