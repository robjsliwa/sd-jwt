import SdJwt.Impl.JsonText
/-! # `parse (render j) = some j` for the JSON text model -/
namespace JText

/-! ## strings -/

theorem hexVal_hexDigit : ∀ k : Fin 16, hexVal (hexDigit k.val) = some k.val := by decide

theorem ne_of_toNat_ne {c d : Char} (h : c.toNat ≠ d.toNat) : c ≠ d := fun e => h (e ▸ rfl)

theorem eq_ofNat {c : Char} {n : Nat} (h : c.toNat = n) : c = Char.ofNat n := by rw [← h, c.ofNat_toNat]

/-! `parseStrBody` on each kind of leading text. After `rw [parseStrBody.eq_def]` the comparisons of
the literal characters are closed terms and `rfl` evaluates them; `simp` on the whole body of
`parseStrBody` costs some twenty times as much. -/

theorem parseStrBody_plain {c : Char} (r acc : List Char) (h1 : c ≠ '"') (h2 : c ≠ '\\') (h3 : ¬c.toNat < 32) :
    parseStrBody (c :: r) acc = parseStrBody r (c :: acc) := by
  rw [parseStrBody.eq_def]
  simp only [if_neg h1, if_neg h2, if_neg h3]

theorem parseStrBody_u (n : Nat) (h : n < 32) (r acc : List Char) :
    parseStrBody ('\\' :: 'u' :: '0' :: '0' :: hexDigit (n / 16) :: hexDigit (n % 16) :: r) acc =
      parseStrBody r (Char.ofNat n :: acc) := by
  have raw (a b : Char) : parseStrBody ('\\' :: 'u' :: '0' :: '0' :: a :: b :: r) acc =
      match hexVal a, hexVal b with
      | some x, some y => if x * 16 + y < 32 then parseStrBody r (Char.ofNat (x * 16 + y) :: acc) else none
      | _, _ => none := by rw [parseStrBody.eq_def]; rfl
  rw [raw, hexVal_hexDigit ⟨n / 16, by omega⟩, hexVal_hexDigit ⟨n % 16, Nat.mod_lt _ (by decide)⟩]
  simp only [Nat.div_add_mod' n 16, h, if_true]

theorem two_append (a b : Char) (r : List Char) : [a, b] ++ r = a :: b :: r := rfl

/-- one escaped character is read back as that character -/
theorem parseStrBody_esc (c : Char) (r acc : List Char) :
    parseStrBody (escChar c ++ r) acc = parseStrBody r (c :: acc) := by
  rw [escChar]
  -- the seven two-letter escapes are a fixed table: each is evaluated
  by_cases h1 : c = '"'
  · rw [if_pos h1, two_append, parseStrBody.eq_def]; subst h1; rfl
  rw [if_neg h1]
  by_cases h2 : c = '\\'
  · rw [if_pos h2, two_append, parseStrBody.eq_def]; subst h2; rfl
  rw [if_neg h2]
  by_cases h3 : c.toNat = 8
  · rw [if_pos h3, two_append, parseStrBody.eq_def]; obtain rfl := eq_ofNat h3; rfl
  rw [if_neg h3]
  by_cases h4 : c.toNat = 12
  · rw [if_pos h4, two_append, parseStrBody.eq_def]; obtain rfl := eq_ofNat h4; rfl
  rw [if_neg h4]
  by_cases h5 : c = '\n'
  · rw [if_pos h5, two_append, parseStrBody.eq_def]; subst h5; rfl
  rw [if_neg h5]
  by_cases h6 : c = '\r'
  · rw [if_pos h6, two_append, parseStrBody.eq_def]; subst h6; rfl
  rw [if_neg h6]
  by_cases h7 : c = '\t'
  · rw [if_pos h7, two_append, parseStrBody.eq_def]; subst h7; rfl
  rw [if_neg h7]
  by_cases h : c.toNat < 32
  · rw [if_pos h]; exact (parseStrBody_u c.toNat h r acc).trans (by rw [c.ofNat_toNat])
  · rw [if_neg h]; exact parseStrBody_plain r acc h1 h2 h

theorem parseStrBody_body (s r : List Char) : ∀ acc : List Char,
    parseStrBody (escBody s ++ '"' :: r) acc = some (acc.reverse ++ s, r) := by
  induction s with
  | nil => intro acc; rw [parseStrBody.eq_def]; simp [escBody]
  | cons c t ih =>
    intro acc
    simp only [escBody, List.append_assoc]
    rw [parseStrBody_esc, ih]
    simp

theorem parseStr_render (s : String) (r : List Char) : parseStr (renderStr s ++ r) = some (s, r) := by
  simp [renderStr, parseStr, parseStrBody_body, String.ofList_toList]

end JText

namespace JText

/-! ## numbers -/

/-- what may follow a number: nothing, or a character that is neither a digit nor the point -/
def NumStop : List Char → Prop
  | [] => True
  | c :: _ => c.isDigit = false ∧ c ≠ '.'

/-- what ends a run of digits -/
def NoDigitHead : List Char → Prop
  | [] => True
  | c :: _ => c.isDigit = false

theorem spanDigits_append (ds rest : List Char) (hd : ∀ c ∈ ds, c.isDigit = true)
    (hr : NoDigitHead rest) :
    spanDigits (ds ++ rest) = (ds, rest) := by
  induction ds with
  | nil =>
    cases rest with
    | nil => simp [spanDigits]
    | cons c r => simp [NoDigitHead] at hr; simp [spanDigits, hr]
  | cons d t ih =>
    have h1 : d.isDigit = true := hd d (by simp)
    have h2 := ih (fun c hc => hd c (by simp [hc]))
    simp [spanDigits, h1, h2]

theorem digits_isDigit (n : Nat) : ∀ c ∈ digits n, c.isDigit = true :=
  fun _ hc => Nat.isDigit_of_mem_toDigits (by decide) (by decide) hc

theorem digits_ne_nil (n : Nat) : digits n ≠ [] := Nat.toDigits_ne_nil

theorem digits_value (n : Nat) : Nat.ofDigitChars 10 (digits n) 0 = n := Nat.ofDigitChars_ten_toDigits

theorem zero_isDigit : ∀ c ∈ List.replicate k '0', c.isDigit = true := by
  intro c hc; rw [List.eq_of_mem_replicate hc]; decide

theorem numStop_digit {rest : List Char} (h : NumStop rest) : NoDigitHead rest := by
  cases rest with
  | nil => trivial
  | cons c r => exact h.1

/-- the digits of `a` padded with zeros to more than `e` places: long enough, all digits, still `a` -/
theorem padded (a e : Nat) :
    let ds := List.replicate (e + 1 - (digits a).length) '0' ++ digits a
    e + 1 ≤ ds.length ∧ (∀ c ∈ ds, c.isDigit = true) ∧ Nat.ofDigitChars 10 ds 0 = a := by
  refine ⟨?_, fun c hc => ?_, ?_⟩
  · simp only [List.length_append, List.length_replicate]; omega
  · rcases List.mem_append.mp hc with h1 | h1
    · exact zero_isDigit c h1
    · exact digits_isDigit a c h1
  · rw [Nat.ofDigitChars_append, Nat.ofDigitChars_replicate_zero]
    simp [digits_value]

theorem parseUnsigned_render (a e : Nat) (rest : List Char) (h : NumStop rest) :
    parseUnsigned (renderUnsigned a e ++ rest) = some (a, e, rest) := by
  unfold renderUnsigned
  by_cases he : e = 0
  · subst he
    simp only [if_true]
    unfold parseUnsigned
    rw [spanDigits_append _ _ (digits_isDigit a) (numStop_digit h)]
    have hne := digits_ne_nil a
    cases hd : digits a with
    | nil => exact absurd hd hne
    | cons d t =>
      cases rest with
      | nil => simp [← hd, digits_value]
      | cons c r =>
        have hc : c ≠ '.' := h.2
        simp only
        split
        · rename_i heq; cases heq; exact absurd rfl hc
        · simp [← hd, digits_value]
  · simp only [he, if_false]
    obtain ⟨hlen, hdig, hval⟩ := padded a e
    generalize List.replicate (e + 1 - (digits a).length) '0' ++ digits a = ds at hlen hdig hval ⊢
    have hip : ∀ c ∈ ds.take (ds.length - e), c.isDigit = true := fun c hc => hdig c (List.mem_of_mem_take hc)
    have hfp : ∀ c ∈ ds.drop (ds.length - e), c.isDigit = true := fun c hc => hdig c (List.mem_of_mem_drop hc)
    have hipne : ds.take (ds.length - e) ≠ [] := by
      intro h0
      have := congrArg List.length h0
      simp at this; omega
    have hfplen : (ds.drop (ds.length - e)).length = e := by simp; omega
    have hfpne : ds.drop (ds.length - e) ≠ [] := by
      intro h0; rw [h0] at hfplen; simp at hfplen; omega
    unfold parseUnsigned
    rw [List.append_assoc, spanDigits_append _ _ hip (by simp [NoDigitHead])]
    cases hi : ds.take (ds.length - e) with
    | nil => exact absurd hi hipne
    | cons i0 it =>
      simp only [List.cons_append]
      rw [spanDigits_append _ _ hfp (numStop_digit h)]
      cases hf : ds.drop (ds.length - e) with
      | nil => exact absurd hf hfpne
      | cons f0 ft =>
        simp only
        have e1 : i0 :: (it ++ f0 :: ft) = ds := by
          rw [← List.cons_append, ← hi, ← hf, List.take_append_drop]
        have e2 : (f0 :: ft).length = e := by rw [← hf]; exact hfplen
        rw [e1, hval, e2]

theorem natAbs_neg (m : Int) (h : m < 0) : -((m.natAbs : Nat) : Int) = m := by omega

theorem natAbs_nonneg (m : Int) (h : ¬ m < 0) : ((m.natAbs : Nat) : Int) = m := by omega

theorem renderUnsigned_head (a e : Nat) : ∃ c r, renderUnsigned a e = c :: r ∧ c.isDigit = true := by
  unfold renderUnsigned
  by_cases he : e = 0
  · simp only [he, if_true]
    cases hd : digits a with
    | nil => exact absurd hd (digits_ne_nil a)
    | cons d t => exact ⟨d, t, rfl, digits_isDigit a d (by simp [hd])⟩
  · simp only [he, if_false]
    obtain ⟨hlen, hdig, _⟩ := padded a e
    generalize List.replicate (e + 1 - (digits a).length) '0' ++ digits a = ds at hlen hdig ⊢
    cases hi : ds.take (ds.length - e) with
    | nil =>
      have := congrArg List.length hi
      simp at this; omega
    | cons i0 it =>
      exact ⟨i0, it ++ '.' :: ds.drop (ds.length - e), by simp, hdig i0 (List.mem_of_mem_take (by rw [hi]; simp))⟩

theorem parseNum_render (m : Int) (e : Nat) (rest : List Char) (h : NumStop rest) :
    parseNum (renderNum m e ++ rest) = some (.num m e, rest) := by
  unfold renderNum
  by_cases hm : m < 0
  · simp only [hm, if_true, List.cons_append]
    simp [parseNum, parseUnsigned_render _ _ _ h, natAbs_neg m hm]
  · simp only [hm, if_false]
    obtain ⟨c, r, hc, hdg⟩ := renderUnsigned_head m.natAbs e
    have hne : c ≠ '-' := by intro e0; subst e0; revert hdg; decide
    have hp := parseUnsigned_render m.natAbs e rest h
    rw [hc] at hp ⊢
    simp only [List.cons_append] at hp ⊢
    unfold parseNum
    split
    · rename_i heq; cases heq; exact absurd rfl hne
    · simp [hp, natAbs_nonneg m hm]

end JText

namespace JText

/-! ## values -/

mutual
def sz : J → Nat
  | .arr xs => 1 + szL xs
  | .obj ms => 1 + szM ms
  | _ => 1
def szL : List J → Nat
  | [] => 0
  | x :: r => 1 + sz x + szL r
def szM : List (String × J) → Nat
  | [] => 0
  | (_, v) :: r => 1 + sz v + szM r
end

/-- what may follow a value inside a text: nothing, or `,` `]` `}` -/
def Stop : List Char → Prop
  | [] => True
  | c :: _ => c = ',' ∨ c = ']' ∨ c = '}'

theorem Stop.numStop {rest : List Char} (h : Stop rest) : NumStop rest := by
  cases rest with
  | nil => trivial
  | cons c r =>
    rcases h with rfl | rfl | rfl <;> exact ⟨by decide, by decide⟩

/-- the first character of a value's text: never one that closes or separates -/
def GoodHead (c : Char) : Prop := c ≠ ']' ∧ c ≠ '}' ∧ c ≠ ','

theorem isDigit_good {c : Char} (h : c.isDigit = true) :
    c ≠ 'n' ∧ c ≠ 't' ∧ c ≠ 'f' ∧ c ≠ '"' ∧ c ≠ '[' ∧ c ≠ '{' ∧ c ≠ '-' ∧ GoodHead c := by
  refine ⟨?_, ?_, ?_, ?_, ?_, ?_, ?_, ?_, ?_, ?_⟩ <;> (intro e; subst e; revert h; decide)

theorem renderNum_head (m : Int) (e : Nat) : ∃ c r, renderNum m e = c :: r ∧
    c ≠ 'n' ∧ c ≠ 't' ∧ c ≠ 'f' ∧ c ≠ '"' ∧ c ≠ '[' ∧ c ≠ '{' ∧ GoodHead c := by
  unfold renderNum
  by_cases hm : m < 0
  · simp only [hm, if_true]
    exact ⟨'-', _, rfl, by decide, by decide, by decide, by decide, by decide, by decide, by decide, by decide, by decide⟩
  · simp only [hm, if_false]
    obtain ⟨c, r, hc, hd⟩ := renderUnsigned_head m.natAbs e
    obtain ⟨a1, a2, a3, a4, a5, a6, _, a8⟩ := isDigit_good hd
    exact ⟨c, r, hc, a1, a2, a3, a4, a5, a6, a8⟩

theorem render_head (j : J) : ∃ c r, render j = c :: r ∧ GoodHead c := by
  cases j with
  | null => exact ⟨'n', _, by simp [render]; rfl, by decide, by decide, by decide⟩
  | bool b => cases b
              · exact ⟨'f', _, by simp [render]; rfl, by decide, by decide, by decide⟩
              · exact ⟨'t', _, by simp [render]; rfl, by decide, by decide, by decide⟩
  | num m e =>
    obtain ⟨c, r, hc, _, _, _, _, _, _, hg⟩ := renderNum_head m e
    exact ⟨c, r, by simp [render, hc], hg⟩
  | str s => exact ⟨'"', escBody s.toList ++ ['"'], by simp [render, renderStr], by decide, by decide, by decide⟩
  | arr xs => exact ⟨'[', renderElems xs ++ [']'], by simp [render], by decide, by decide, by decide⟩
  | obj ms => exact ⟨'{', renderMems ms ++ ['}'], by simp [render], by decide, by decide, by decide⟩

end JText

namespace JText

theorem sz_pos (j : J) : 0 < sz j := by cases j <;> simp only [sz] <;> omega

/-! `parse` on each leading character. -/

theorem parse_other (n : Nat) (c : Char) (r : List Char) (h1 : c ≠ 'n') (h2 : c ≠ 't') (h3 : c ≠ 'f')
    (h4 : c ≠ '"') (h5 : c ≠ '[') (h6 : c ≠ '{') : parse (n+1) (c :: r) = parseNum (c :: r) := by
  rw [parse.eq_def]
  simp only [if_neg h1, if_neg h2, if_neg h3, if_neg h4, if_neg h5, if_neg h6]

theorem parse_str (n : Nat) (r : List Char) :
    parse (n+1) ('"' :: r) = (parseStr ('"' :: r)).map fun (s, r') => (.str s, r') := by
  rw [parse.eq_def]; rfl

theorem parse_arr (n : Nat) (c : Char) (r : List Char) (h : c ≠ ']') :
    parse (n+1) ('[' :: c :: r) = (parseElems n (c :: r)).map fun (xs, r') => (.arr xs, r') := by
  rw [parse.eq_def]
  simp [h]

theorem parse_obj (n : Nat) (c : Char) (r : List Char) (h : c ≠ '}') :
    parse (n+1) ('{' :: c :: r) = (parseMems n (c :: r)).map fun (ms, r') => (.obj ms, r') := by
  rw [parse.eq_def]
  simp [h]

theorem stop_close_arr (rest : List Char) : Stop (']' :: rest) := Or.inr (Or.inl rfl)
theorem stop_close_obj (rest : List Char) : Stop ('}' :: rest) := Or.inr (Or.inr rfl)
theorem stop_comma (rest : List Char) : Stop (',' :: rest) := Or.inl rfl

theorem renderElems_head : (x : J) → (xs : List J) → ∃ c r, renderElems (x :: xs) = c :: r ∧ GoodHead c
  | x, [] => by simpa [renderElems] using render_head x
  | x, y :: r => by
    obtain ⟨c, t, hc, hg⟩ := render_head x
    exact ⟨c, t ++ ',' :: renderElems (y :: r), by simp [renderElems, hc], hg⟩
theorem renderMems_head : (k : String) → (v : J) → (ms : List (String × J)) →
    ∃ r, renderMems ((k, v) :: ms) = '"' :: r
  | k, v, [] => ⟨_, by simp [renderMems, renderStr]; rfl⟩
  | k, v, p :: r => ⟨_, by simp [renderMems, renderStr]; rfl⟩

/-! `parseElems` and `parseMems` by what follows the first item. -/

theorem parseElems_last {n : Nat} {cs rest : List Char} {x : J} (h : parse n cs = some (x, ']' :: rest)) :
    parseElems (n+1) cs = some ([x], rest) := by
  rw [parseElems, h]; rfl

theorem parseElems_more {n : Nat} {cs r rest : List Char} {x : J} {xs : List J}
    (h : parse n cs = some (x, ',' :: r)) (h2 : parseElems n r = some (xs, rest)) :
    parseElems (n+1) cs = some (x :: xs, rest) := by
  rw [parseElems, h]; show Option.map _ (parseElems n r) = _; rw [h2]; rfl

theorem parseMems_last {n : Nat} {k : String} {r rest : List Char} {v : J}
    (h : parse n r = some (v, '}' :: rest)) :
    parseMems (n+1) (renderStr k ++ ':' :: r) = some ([(k, v)], rest) := by
  rw [parseMems, parseStr_render]; show (match parse n r with | none => none | some (v, r) => _) = _; rw [h]; rfl

theorem parseMems_more {n : Nat} {k : String} {r r' rest : List Char} {v : J} {ms : List (String × J)}
    (h : parse n r = some (v, ',' :: r')) (h2 : parseMems n r' = some (ms, rest)) :
    parseMems (n+1) (renderStr k ++ ':' :: r) = some ((k, v) :: ms, rest) := by
  rw [parseMems, parseStr_render]; show (match parse n r with | none => none | some (v, r) => _) = _; rw [h]
  show Option.map _ (parseMems n r') = _; rw [h2]; rfl

/-- all three readers at once, by induction on the fuel: every recursive call is made with one less -/
theorem parse_render_all (fuel : Nat) :
    (∀ j rest, sz j ≤ fuel → Stop rest → parse fuel (render j ++ rest) = some (j, rest)) ∧
    (∀ x xs rest, szL (x :: xs) ≤ fuel →
      parseElems fuel (renderElems (x :: xs) ++ ']' :: rest) = some (x :: xs, rest)) ∧
    (∀ k v ms rest, szM ((k, v) :: ms) ≤ fuel →
      parseMems fuel (renderMems ((k, v) :: ms) ++ '}' :: rest) = some ((k, v) :: ms, rest)) := by
  induction fuel with
  | zero =>
    refine ⟨fun j _ hf => absurd hf (Nat.not_le.2 (sz_pos j)), fun x xs _ hf => ?_, fun k v ms _ hf => ?_⟩
    · simp [szL] at hf
    · simp [szM] at hf
  | succ n ih =>
    obtain ⟨ihV, ihE, ihM⟩ := ih
    refine ⟨fun j rest hf hs => ?_, fun x xs rest hf => ?_, fun k v ms rest hf => ?_⟩
    · match j with
      | .null => rw [parse.eq_def]; rfl
      | .bool true => rw [parse.eq_def]; rfl
      | .bool false => rw [parse.eq_def]; rfl
      | .num m e =>
        obtain ⟨c, r, hc, a1, a2, a3, a4, a5, a6, _⟩ := renderNum_head m e
        have h := parseNum_render m e rest hs.numStop
        rw [hc] at h
        simp only [render, hc, List.cons_append] at h ⊢
        rw [parse_other n c _ a1 a2 a3 a4 a5 a6, h]
      | .str s =>
        rw [render, renderStr, List.cons_append, parse_str]
        exact congrArg _ (parseStr_render s rest)
      | .arr [] => rw [parse.eq_def]; rfl
      | .arr (x :: xs) =>
        have hE := ihE x xs rest (by simp only [sz] at hf; omega)
        obtain ⟨c, r, hc, hg⟩ := renderElems_head x xs
        simp only [render, List.cons_append, List.append_assoc, List.nil_append] at hE ⊢
        rw [hc] at hE ⊢
        simp only [List.cons_append] at hE ⊢
        rw [parse_arr n c _ hg.1, hE]
        rfl
      | .obj [] => rw [parse.eq_def]; rfl
      | .obj ((k, v) :: ms) =>
        have hM := ihM k v ms rest (by simp only [sz] at hf; omega)
        obtain ⟨r, hc⟩ := renderMems_head k v ms
        simp only [render, List.cons_append, List.append_assoc, List.nil_append] at hM ⊢
        rw [hc] at hM ⊢
        simp only [List.cons_append] at hM ⊢
        rw [parse_obj n '"' _ (by decide), hM]
        rfl
    · match xs with
      | [] => exact parseElems_last (ihV x _ (by simp only [szL] at hf; omega) (stop_close_arr rest))
      | y :: r =>
        rw [renderElems, List.append_assoc, List.cons_append]
        exact parseElems_more (ihV x _ (by simp only [szL] at hf; omega) (stop_comma _))
          (ihE y r rest (by simp only [szL] at hf ⊢; omega))
    · match ms with
      | [] =>
        rw [renderMems, List.append_assoc, List.cons_append]
        exact parseMems_last (ihV v _ (by simp only [szM] at hf; omega) (stop_close_obj rest))
      | (k2, v2) :: r =>
        rw [renderMems, List.append_assoc, List.cons_append, List.append_assoc, List.cons_append]
        exact parseMems_more (ihV v _ (by simp only [szM] at hf; omega) (stop_comma _))
          (ihM k2 v2 r rest (by simp only [szM] at hf ⊢; omega))

/-- **the reader reads back what the printer wrote**, with anything that may follow a value after it -/
theorem parse_render : (j : J) → (fuel : Nat) → (rest : List Char) → sz j ≤ fuel → Stop rest →
    parse fuel (render j ++ rest) = some (j, rest) :=
  fun j fuel rest hf hs => (parse_render_all fuel).1 j rest hf hs
theorem parseElems_render : (x : J) → (xs : List J) → (fuel : Nat) → (rest : List Char) →
    szL (x :: xs) ≤ fuel → parseElems fuel (renderElems (x :: xs) ++ ']' :: rest) = some (x :: xs, rest) :=
  fun x xs fuel rest hf => (parse_render_all fuel).2.1 x xs rest hf
theorem parseMems_render : (k : String) → (v : J) → (ms : List (String × J)) → (fuel : Nat) →
    (rest : List Char) → szM ((k, v) :: ms) ≤ fuel →
    parseMems fuel (renderMems ((k, v) :: ms) ++ '}' :: rest) = some ((k, v) :: ms, rest) :=
  fun k v ms fuel rest hf => (parse_render_all fuel).2.2 k v ms rest hf

end JText

namespace JText

theorem render_pos (j : J) : 1 ≤ (render j).length := by
  obtain ⟨c, r, hc, _⟩ := render_head j
  rw [hc]; simp

/-! The size bound that gives `parseAll` its fuel. The list lemmas are stated for every list, so that
the recursion is structural. -/
mutual
theorem sz_le_length : (j : J) → sz j ≤ (render j).length
  | .null => by simp [sz, render]
  | .bool true => by simp [sz, render]
  | .bool false => by simp [sz, render]
  | .num m e => by simpa [sz] using render_pos (.num m e)
  | .str s => by simpa [sz] using render_pos (.str s)
  | .arr xs => by
    have := szL_le xs
    simp only [sz, render, List.length_cons, List.length_append, List.length_nil] at this ⊢
    omega
  | .obj ms => by
    have := szM_le ms
    simp only [sz, render, List.length_cons, List.length_append, List.length_nil] at this ⊢
    omega
theorem szL_le : (xs : List J) → szL xs ≤ (renderElems xs).length + 1
  | [] => by simp [szL]
  | [x] => by
    have := sz_le_length x
    simp only [szL, renderElems] at this ⊢; omega
  | x :: y :: r => by
    have h1 := sz_le_length x
    have h2 := szL_le (y :: r)
    simp only [szL, renderElems, List.length_append, List.length_cons] at h1 h2 ⊢; omega
theorem szM_le : (ms : List (String × J)) → szM ms ≤ (renderMems ms).length + 1
  | [] => by simp [szM]
  | [(k, v)] => by
    have := sz_le_length v
    simp only [szM, renderMems, List.length_append, List.length_cons] at this ⊢; omega
  | (k, v) :: p :: r => by
    have h1 := sz_le_length v
    have h2 := szM_le (p :: r)
    simp only [szM, renderMems, List.length_append, List.length_cons] at h1 h2 ⊢; omega
end

theorem szL_le_length : (x : J) → (xs : List J) → szL (x :: xs) ≤ (renderElems (x :: xs)).length + 1 :=
  fun x xs => szL_le (x :: xs)
theorem szM_le_length : (k : String) → (v : J) → (ms : List (String × J)) →
    szM ((k, v) :: ms) ≤ (renderMems ((k, v) :: ms)).length + 1 :=
  fun k v ms => szM_le ((k, v) :: ms)

/-- **`parse (render j) = some j`**: the text of a value is read back as that value -/
theorem parseAll_render (j : J) : parseAll (render j) = some j := by
  have h := parse_render j ((render j).length + 1) [] (by have := sz_le_length j; omega) trivial
  simp only [List.append_nil] at h
  simp [parseAll, h]

/-- two different values never have the same text -/
theorem render_injective (a b : J) (h : render a = render b) : a = b := by
  have := parseAll_render a; rw [h, parseAll_render b] at this; exact (Option.some.inj this).symm

end JText
