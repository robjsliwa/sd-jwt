import SdJwt.Impl.Yaml
import SdJwt.Lemmas.Tree
import SdJwt.Lemmas.View
import SdJwt.Lemmas.YamlL
/-!
C15, the general statement: the YAML document obtained by annotating a marked tree with `!sd`
tags parses to the tree's plain claims and to one path per marked node, nested paths first.
-/
open Assoc Spec Path
namespace Impl

def jToY : J → Y
  | .null => .null
  | .bool b => .bool b
  | .num m e => .num m e
  | .str s => .str s
  | _ => .null

mutual
/-- the YAML value of the document: `!sd` on the keys of marked members and on marked items -/
def _root_.MJ.toY : MJ → Y
  | .leaf j => jToY j
  | .arr xs => .seq xs.toY
  | .obj ms _ => .map ms.toY
def _root_.MElems.toY : MElems → List Y
  | .nil => []
  | .clear x r => x.toY :: r.toY
  | .marked _ x r => .tagged "!sd" x.toY :: r.toY
  | .decoy _ r => r.toY
def _root_.MMems.toY : MMems → List (Y × Y)
  | .nil => []
  | .clear k x r => (.str k, x.toY) :: r.toY
  | .marked k _ x r => (.tagged "!sd" (.str k), x.toY) :: r.toY
end

mutual
/-- the same document without its tags -/
def _root_.MJ.toYplain : MJ → Y
  | .leaf j => jToY j
  | .arr xs => .seq xs.toYplain
  | .obj ms _ => .map ms.toYplain
def _root_.MElems.toYplain : MElems → List Y
  | .nil => []
  | .clear x r => x.toYplain :: r.toYplain
  | .marked _ x r => x.toYplain :: r.toYplain
  | .decoy _ r => r.toYplain
def _root_.MMems.toYplain : MMems → List (Y × Y)
  | .nil => []
  | .clear k x r => (.str k, x.toYplain) :: r.toYplain
  | .marked k _ x r => (.str k, x.toYplain) :: r.toYplain
end

mutual
/-- what a YAML document can express: tags on string sequence items only, no decoys -/
def _root_.MJ.YamlOK : MJ → Prop
  | .leaf j => J.scalar j
  | .arr xs => xs.YamlOK
  | .obj ms _ => ms.YamlOK
def _root_.MElems.YamlOK : MElems → Prop
  | .nil => True
  | .clear x r => x.YamlOK ∧ r.YamlOK
  | .marked _ x r => (∃ s, x = .leaf (.str s)) ∧ r.YamlOK
  | .decoy _ _ => False
def _root_.MMems.YamlOK : MMems → Prop
  | .nil => True
  | .clear _ x r => x.YamlOK ∧ r.YamlOK
  | .marked _ _ x r => x.YamlOK ∧ r.YamlOK
end

mutual
/-- the paths `parse_yaml` reports, in its order: for a tagged key the paths below it first, then
its own; `segs` are the escaped segments from the root -/
def _root_.MJ.ypaths (segs : List String) : MJ → List String
  | .leaf _ => []
  | .arr xs => xs.ypaths segs 0
  | .obj ms _ => ms.ypaths segs
def _root_.MElems.ypaths (segs : List String) (i : Nat) : MElems → List String
  | .nil => []
  | .clear x r => x.ypaths (segs ++ [toString i]) ++ r.ypaths segs (i+1)
  | .marked _ _ r => joinPath (segs ++ [toString i]) :: r.ypaths segs (i+1)
  | .decoy _ r => r.ypaths segs (i+1)
def _root_.MMems.ypaths (segs : List String) : MMems → List String
  | .nil => []
  | .clear k x r => x.ypaths (segs ++ [escapeSeg k]) ++ r.ypaths segs
  | .marked k _ x r => x.ypaths (segs ++ [escapeSeg k]) ++ joinPath (segs ++ [escapeSeg k]) :: r.ypaths segs
end

theorem collect_scalar (segs : List String) (j : J) (h : J.scalar j) :
    collect segs (jToY j) = .ok (jToY j, []) := by
  cases j <;> simp_all [jToY, collect, J.scalar]

mutual
theorem MJ.collect_toY : (T : MJ) → (segs : List String) → T.YamlOK →
    collect segs T.toY = .ok (T.toYplain, T.ypaths segs)
  | .leaf j, segs, h => by
    simp only [MJ.YamlOK] at h
    simpa [MJ.toY, MJ.toYplain, MJ.ypaths] using collect_scalar segs j h
  | .arr xs, segs, h => by
    simp only [MJ.YamlOK] at h
    simp [MJ.toY, MJ.toYplain, MJ.ypaths, collect, MElems.collect_toY xs segs 0 h]
  | .obj ms sd, segs, h => by
    simp only [MJ.YamlOK] at h
    simp [MJ.toY, MJ.toYplain, MJ.ypaths, collect, MMems.collect_toY ms segs h]
theorem MElems.collect_toY : (xs : MElems) → (segs : List String) → (i : Nat) → xs.YamlOK →
    collect.collectS segs i xs.toY = .ok (xs.toYplain, xs.ypaths segs i)
  | .nil, _, _, _ => by simp [MElems.toY, MElems.toYplain, MElems.ypaths, collect.collectS]
  | .clear x r, segs, i, h => by
    simp only [MElems.YamlOK] at h
    have h1 := MJ.collect_toY x (segs ++ [toString i]) h.1
    have h2 := MElems.collect_toY r segs (i+1) h.2
    -- a clear item keeps no tag: `stripItemTag` is the identity on an untagged value
    have hs : ∀ ps, stripItemTag x.toYplain ps = .ok (x.toYplain, ps) := by
      intro ps
      cases x with
      | leaf j => cases j <;> simp [MJ.toYplain, jToY, stripItemTag]
      | arr ys => simp [MJ.toYplain, stripItemTag]
      | obj ms sd => simp [MJ.toYplain, stripItemTag]
    simp only [MElems.toY, MElems.toYplain, MElems.ypaths, collect.collectS, h1, hs, h2]
  | .marked dg x r, segs, i, h => by
    simp only [MElems.YamlOK] at h
    obtain ⟨⟨s, rfl⟩, hr⟩ := h
    have h2 := MElems.collect_toY r segs (i+1) hr
    simp [MElems.toY, MElems.toYplain, MElems.ypaths, MJ.toY, MJ.toYplain, jToY, collect.collectS,
      collect, stripItemTag, Y.asStr, h2]
  | .decoy dg r, _, _, h => by simp [MElems.YamlOK] at h
theorem MMems.collect_toY : (ms : MMems) → (segs : List String) → ms.YamlOK →
    collect.collectM segs ms.toY = .ok (ms.toYplain, ms.ypaths segs)
  | .nil, _, _ => by simp [MMems.toY, MMems.toYplain, MMems.ypaths, collect.collectM]
  | .clear k x r, segs, h => by
    simp only [MMems.YamlOK] at h
    have h1 := MJ.collect_toY x (segs ++ [escapeSeg k]) h.1
    have h2 := MMems.collect_toY r segs h.2
    simp [MMems.toY, MMems.toYplain, MMems.ypaths, collect.collectM, keyKind, h1, h2]
  | .marked k dg x r, segs, h => by
    simp only [MMems.YamlOK] at h
    have h1 := MJ.collect_toY x (segs ++ [escapeSeg k]) h.1
    have h2 := MMems.collect_toY r segs h.2
    simp [MMems.toY, MMems.toYplain, MMems.ypaths, collect.collectM, keyKind, Y.asStr, h1, h2]
end

end Impl

namespace Impl

theorem ains_append_gt {α : Type} (k : String) (v : α) : (acc : List (String × α)) →
    (∀ p ∈ acc, p.1 < k) → ains k v acc = acc ++ [(k, v)]
  | [], _ => rfl
  | (k', v') :: r, h => by
    have hlt : k' < k := h (k', v') (by simp)
    rw [ains_cons_lt _ _ _ hlt, ains_append_gt k v r (fun p hp => h p (by simp [hp]))]
    rfl

theorem ofList_sorted_aux {α : Type} : (l acc : List (String × α)) → Sorted l →
    (∀ p ∈ acc, ∀ q ∈ l, p.1 < q.1) →
    l.foldl (fun a kv => ains kv.1 kv.2 a) acc = acc ++ l
  | [], acc, _, _ => by simp
  | (k, v) :: r, acc, hs, hlt => by
    simp only [List.foldl_cons]
    rw [ains_append_gt k v acc (fun p hp => hlt p hp (k, v) (by simp))]
    rw [ofList_sorted_aux r (acc ++ [(k, v)]) hs.2 (by
      intro p hp q hq
      simp only [List.mem_append, List.mem_singleton] at hp
      rcases hp with hp | hp
      · exact hlt p hp q (by simp [hq])
      · subst hp; exact (allGt_iff.mp hs.1) q hq)]
    simp

/-- building a map from an already sorted list of bindings gives that list -/
theorem ofList_sorted {α : Type} (l : List (String × α)) (hs : Sorted l) : Assoc.ofList l = l := by
  unfold Assoc.ofList
  simpa using ofList_sorted_aux l [] hs (by simp)

theorem yamlToJson_scalar (j : J) (h : J.scalar j) : yamlToJson (jToY j) = some j := by
  cases j <;> simp_all [jToY, yamlToJson, J.scalar]

mutual
theorem MJ.yamlToJson_plain : (T : MJ) → T.WF → yamlToJson T.toYplain = some T.plain
  | .leaf j, wf => by
    simp only [MJ.WF] at wf
    simpa [MJ.toYplain, MJ.plain, MJ.project] using yamlToJson_scalar j wf
  | .arr xs, wf => by
    simp only [MJ.WF] at wf
    simp [MJ.toYplain, MJ.plain, MJ.project, yamlToJson, MElems.yamlToJson_plain xs wf]
  | .obj ms sd, wf => by
    simp only [MJ.WF] at wf
    have hs : Sorted (ms.project (fun _ => true)) := by
      have := sorted_hview (fun _ => true) ms wf.1
      -- `project ⊤` and `hview ⊤` list the same keys; sortedness of `project` directly:
      exact MMems.sorted_project ms wf.1
    simp [MJ.toYplain, MJ.plain, MJ.project, yamlToJson, MMems.yamlToJson_plain ms wf.1, ofList_sorted _ hs]
theorem MElems.yamlToJson_plain : (xs : MElems) → xs.WF →
    yamlToJson.seqToJson xs.toYplain = some (xs.project (fun _ => true))
  | .nil, _ => by simp [MElems.toYplain, MElems.project, yamlToJson.seqToJson]
  | .clear x r, wf => by
    simp only [MElems.WF] at wf
    simp [MElems.toYplain, MElems.project, yamlToJson.seqToJson, MJ.yamlToJson_plain x wf.1,
      MElems.yamlToJson_plain r wf.2, MJ.plain]
  | .marked dg x r, wf => by
    simp only [MElems.WF] at wf
    simp [MElems.toYplain, MElems.project, yamlToJson.seqToJson, MJ.yamlToJson_plain x wf.1,
      MElems.yamlToJson_plain r wf.2, MJ.plain]
  | .decoy dg r, wf => by
    simp only [MElems.WF] at wf
    simp [MElems.toYplain, MElems.project, MElems.yamlToJson_plain r wf]
theorem MMems.yamlToJson_plain : (ms : MMems) → ms.WF →
    yamlToJson.mapToJson ms.toYplain = some (ms.project (fun _ => true))
  | .nil, _ => by simp [MMems.toYplain, MMems.project, yamlToJson.mapToJson]
  | .clear k x r, wf => by
    simp only [MMems.WF] at wf
    simp [MMems.toYplain, MMems.project, yamlToJson.mapToJson, MJ.yamlToJson_plain x wf.2.2.1,
      MMems.yamlToJson_plain r wf.2.2.2.2, MJ.plain]
  | .marked k dg x r, wf => by
    simp only [MMems.WF] at wf
    simp [MMems.toYplain, MMems.project, yamlToJson.mapToJson, MJ.yamlToJson_plain x wf.2.2.1,
      MMems.yamlToJson_plain r wf.2.2.2.2, MJ.plain]
theorem MMems.keysGt_project (k0 : String) : (ms : MMems) → ms.keysGt k0 → AllGt k0 (ms.project (fun _ => true))
  | .nil, _ => trivial
  | .clear k x r, h => by
    simp only [MMems.keysGt] at h
    exact ⟨h.1, MMems.keysGt_project k0 r h.2⟩
  | .marked k dg x r, h => by
    simp only [MMems.keysGt] at h
    simp only [MMems.project, if_true]
    exact ⟨h.1, MMems.keysGt_project k0 r h.2⟩
theorem MMems.sorted_project : (ms : MMems) → ms.WF → Sorted (ms.project (fun _ => true))
  | .nil, _ => trivial
  | .clear k x r, wf => by
    simp only [MMems.WF] at wf
    exact ⟨MMems.keysGt_project k r wf.2.2.2.1, MMems.sorted_project r wf.2.2.2.2⟩
  | .marked k dg x r, wf => by
    simp only [MMems.WF] at wf
    simp only [MMems.project, if_true]
    exact ⟨MMems.keysGt_project k r wf.2.2.2.1, MMems.sorted_project r wf.2.2.2.2⟩
end

/-- **C15, general.** For every marked tree a YAML document can express (`YamlOK`: string-keyed
mappings — `WF` —, tags on keys at any depth, also inside sequences, below other tagged keys and
in single-entry mappings, and on string sequence items): parsing the annotated document yields the
tree's plain claims and the paths `ypaths`, one per tagged node, nested paths before the
enclosing one. -/
theorem parseYaml_toY (T : MJ) (wf : T.WF) (hy : T.YamlOK) :
    parseYaml T.toY = .ok (T.plain, T.ypaths []) := by
  simp [parseYaml, MJ.collect_toY T [] hy, MJ.yamlToJson_plain T wf]

end Impl

namespace Impl
open Path

theorem joinPath_snoc (segs : List String) (s : String) :
    joinPath (segs ++ [s]) = joinPath segs ++ "/" ++ s := by
  simp [joinPath, List.foldl_append]

theorem fmtPath_joinPath (segs : List String) (k : String) :
    fmtPath (joinPath segs) k = joinPath (segs ++ [escapeSeg k]) := by
  rw [joinPath_snoc]
  unfold fmtPath
  split
  · next h => rw [h]; simp
  · rfl

theorem escapeL_digits : (l : List Char) → (∀ c ∈ l, c.isDigit) → escapeL l = l
  | [], _ => rfl
  | c :: r, h => by
    have hc : c.isDigit := h c (by simp)
    have h1 : c ≠ '~' := by intro e; subst e; revert hc; decide
    have h2 : c ≠ '/' := by intro e; subst e; revert hc; decide
    simp [escapeL, h1, h2, escapeL_digits r (fun c hc => h c (by simp [hc]))]

/-- an index needs no escaping -/
theorem escapeSeg_index (i : Nat) : escapeSeg (toString i) = toString i := by
  unfold escapeSeg
  have : (toString i).toList = Nat.toDigits 10 i := Nat.toList_repr
  rw [this, escapeL_digits _ (fun c hc => Nat.isDigit_of_mem_toDigits (by omega) (by omega) hc)]
  exact Nat.repr_eq_ofList_toDigits.symm

mutual
/-- the reported paths are, as a multiset, the pointers of the marked nodes of `T`: one per
marked node, none for any other node -/
theorem MJ.ypaths_perm : (T : MJ) → (segs : List String) → T.YamlOK →
    (T.ypaths segs).Perm ((T.paths (joinPath segs)).map (·.1))
  | .leaf _, _, _ => by simp [MJ.ypaths, MJ.paths]
  | .arr xs, segs, h => by
    simp only [MJ.YamlOK] at h
    simpa [MJ.ypaths, MJ.paths] using MElems.ypaths_perm xs segs 0 h
  | .obj ms _, segs, h => by
    simp only [MJ.YamlOK] at h
    simpa [MJ.ypaths, MJ.paths] using MMems.ypaths_perm ms segs h
theorem MElems.ypaths_perm : (xs : MElems) → (segs : List String) → (i : Nat) → xs.YamlOK →
    (xs.ypaths segs i).Perm ((xs.paths (joinPath segs) i).map (·.1))
  | .nil, _, _, _ => by simp [MElems.ypaths, MElems.paths]
  | .clear x r, segs, i, h => by
    simp only [MElems.YamlOK] at h
    have h1 := MJ.ypaths_perm x (segs ++ [toString i]) h.1
    have h2 := MElems.ypaths_perm r segs (i+1) h.2
    simp only [MElems.ypaths, MElems.paths, List.map_append, fmtPath_joinPath, escapeSeg_index]
    exact h1.append h2
  | .marked dg x r, segs, i, h => by
    simp only [MElems.YamlOK] at h
    obtain ⟨⟨s, rfl⟩, hr⟩ := h
    have h2 := MElems.ypaths_perm r segs (i+1) hr
    simp only [MElems.ypaths, MElems.paths, MJ.paths, List.map_cons, List.map_append, List.map_nil,
      List.nil_append, fmtPath_joinPath, escapeSeg_index]
    exact h2.cons _
  | .decoy dg r, _, _, h => by simp [MElems.YamlOK] at h
theorem MMems.ypaths_perm : (ms : MMems) → (segs : List String) → ms.YamlOK →
    (ms.ypaths segs).Perm ((ms.paths (joinPath segs)).map (·.1))
  | .nil, _, _ => by simp [MMems.ypaths, MMems.paths]
  | .clear k x r, segs, h => by
    simp only [MMems.YamlOK] at h
    have h1 := MJ.ypaths_perm x (segs ++ [escapeSeg k]) h.1
    have h2 := MMems.ypaths_perm r segs h.2
    simp only [MMems.ypaths, MMems.paths, List.map_append, fmtPath_joinPath]
    exact h1.append h2
  | .marked k dg x r, segs, h => by
    simp only [MMems.YamlOK] at h
    have h1 := MJ.ypaths_perm x (segs ++ [escapeSeg k]) h.1
    have h2 := MMems.ypaths_perm r segs h.2
    simp only [MMems.ypaths, MMems.paths, List.map_cons, List.map_append, fmtPath_joinPath]
    exact List.perm_middle.trans ((h1.append h2).cons _)
end

end Impl
