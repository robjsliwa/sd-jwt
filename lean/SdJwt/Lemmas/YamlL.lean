import SdJwt.Impl.Yaml
/-! YAML lemmas: totality of the tag walk (same scheme as `Lemmas/Total.lean`). -/
namespace Impl

@[simp] theorem keyKind_noPanic (k : Y) : keyKind k ≠ .panic := by
  fun_cases keyKind k <;> simp

@[simp] theorem stripItemTag_noPanic (x : Y) (ps : List String) : stripItemTag x ps ≠ .panic := by
  fun_cases stripItemTag x ps <;> simp

@[simp] theorem collect_noPanic (path : List String) (y : Y) : collect path y ≠ .panic := by
  apply collect.induct
    (motive_1 := fun path kvs => collect.collectM path kvs ≠ .panic)
    (motive_2 := fun path y => collect path y ≠ .panic)
    (motive_3 := fun path i xs => collect.collectS path i xs ≠ .panic)
  all_goals intros
  all_goals simp only [collect, collect.collectM, collect.collectS, *]
  all_goals simp
  all_goals simp_all

@[simp] theorem parseYaml_noPanic (doc : Y) : parseYaml doc ≠ .panic := by
  fun_cases parseYaml doc <;> simp_all

end Impl
