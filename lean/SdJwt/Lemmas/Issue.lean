import SdJwt.Lemmas.Tree
import SdJwt.Impl.Issuer
import SdJwt.Lemmas.View
import SdJwt.Lemmas.Obs
/-!
T-issue: the issuer model's in-place hiding of one path (`updateAt (hideIn …)` on JSON) is the
specification's marking (`markIn`) on the marked tree whose payload the JSON is.
-/
open Assoc Spec
namespace Impl

/-! ### members -/

theorem getClear_props (k : String) : (ms : MMems) → ms.WF → ∀ x, ms.getClear k = some x →
    aget k (ms.hview noneShown) = some (x.hview noneShown) ∧ k ≠ "_sd" ∧ k ≠ "..." ∧ x.WF
  | .nil, _, _, h => by simp [MMems.getClear] at h
  | .clear k' x' r, wf, x, h => by
    simp only [MMems.WF] at wf
    simp only [MMems.getClear] at h
    by_cases hk : k' = k
    · subst hk
      simp at h; subst h
      exact ⟨by simp [MMems.hview, aget], wf.1, wf.2.1, wf.2.2.1⟩
    · simp only [hk, if_false] at h
      obtain ⟨h1, h2, h3, h4⟩ := getClear_props k r wf.2.2.2.2 x h
      have : k ≠ k' := fun e => hk e.symm
      exact ⟨by simp [MMems.hview, aget, this, h1], h2, h3, h4⟩
  | .marked k' dg x' r, wf, x, h => by
    simp only [MMems.WF] at wf
    simp only [MMems.getClear] at h
    obtain ⟨h1, h2, h3, h4⟩ := getClear_props k r wf.2.2.2.2 x h
    exact ⟨by simpa [MMems.hview] using h1, h2, h3, h4⟩

theorem getClear_keysGt {k k0 : String} : (ms : MMems) → ms.keysGt k0 → ∀ x, ms.getClear k = some x → k0 < k
  | .nil, _, _, h => by simp [MMems.getClear] at h
  | .clear k' x' r, hk, x, h => by
    simp only [MMems.keysGt] at hk
    simp only [MMems.getClear] at h
    by_cases e : k' = k
    · subst e; exact hk.1
    · simp only [e, if_false] at h; exact getClear_keysGt r hk.2 x h
  | .marked k' dg x' r, hk, x, h => by
    simp only [MMems.keysGt] at hk
    simp only [MMems.getClear] at h
    exact getClear_keysGt r hk.2 x h

theorem hview_setClear (k : String) (y : MJ) : (ms : MMems) → ms.WF → ∀ x, ms.getClear k = some x →
    (ms.setClear k y).hview noneShown = ains k (y.hview noneShown) (ms.hview noneShown)
  | .nil, _, _, h => by simp [MMems.getClear] at h
  | .clear k' x' r, wf, x, h => by
    simp only [MMems.WF] at wf
    simp only [MMems.getClear] at h
    by_cases hk : k' = k
    · subst hk
      have hg := keysGt_hview noneShown k' r wf.2.2.2.1
      simp only [MMems.setClear, if_true, MMems.hview]
      cases hr : r.hview noneShown with
      | nil => simp [ains, slt_irrefl]
      | cons a t =>
        obtain ⟨ka, va⟩ := a
        simp [ains, slt_irrefl]
    · simp only [hk, if_false] at h
      have hlt : k' < k := getClear_keysGt r wf.2.2.2.1 x h
      simp only [MMems.setClear, hk, if_false, MMems.hview, hview_setClear k y r wf.2.2.2.2 x h]
      rw [ains_cons_lt _ _ _ hlt]
  | .marked k' dg x' r, wf, x, h => by
    simp only [MMems.WF] at wf
    simp only [MMems.getClear] at h
    simp only [MMems.setClear, MMems.hview, Bool.false_eq_true, if_false]
    exact hview_setClear k y r wf.2.2.2.2 x h

theorem hview_toMarked (k dg : String) : (ms : MMems) → ms.WF → ∀ x, ms.getClear k = some x →
    (ms.toMarked k dg).hview noneShown = adel k (ms.hview noneShown)
  | .nil, _, _, h => by simp [MMems.getClear] at h
  | .clear k' x' r, wf, x, h => by
    simp only [MMems.WF] at wf
    simp only [MMems.getClear] at h
    by_cases hk : k' = k
    · subst hk
      simp [MMems.toMarked, MMems.hview, adel]
    · simp only [hk, if_false] at h
      have : k ≠ k' := fun e => hk e.symm
      simp [MMems.toMarked, hk, MMems.hview, adel, this, hview_toMarked k dg r wf.2.2.2.2 x h]
  | .marked k' dg' x' r, wf, x, h => by
    simp only [MMems.WF] at wf
    simp only [MMems.getClear] at h
    simp only [MMems.toMarked, MMems.hview, Bool.false_eq_true, if_false]
    exact hview_toMarked k dg r wf.2.2.2.2 x h

theorem adel_ains_ne {α : Type} (k k' : String) (v : α) (l : List (String × α)) (hs : Sorted l)
    (hne : k ≠ k') : adel k (ains k' v l) = ains k' v (adel k l) := by
  apply sorted_ext
  · exact sorted_adel _ _ (sorted_ains _ _ _ hs)
  · exact sorted_ains _ _ _ (sorted_adel _ _ hs)
  · intro q
    by_cases h1 : q = k
    · subst h1
      rw [aget_adel_self _ (sorted_ains _ _ _ hs), aget_ains_ne _ hne, aget_adel_self _ hs]
    · by_cases h2 : q = k'
      · subst h2
        rw [aget_adel_ne h1, aget_ains_self, aget_ains_self]
      · rw [aget_adel_ne h1, aget_ains_ne _ h2, aget_ains_ne _ h2, aget_adel_ne h1]

theorem ains_ains_same {α : Type} (k : String) (v v' : α) : (l : List (String × α)) →
    ains k v (ains k v' l) = ains k v l
  | [] => by simp [ains, slt_irrefl]
  | (k', w) :: r => by
    by_cases h1 : k < k'
    · simp [ains, h1, slt_irrefl]
    · by_cases h2 : k = k'
      · subst h2; simp [ains, slt_irrefl]
      · simp [ains, h1, h2, ains_ains_same k v v' r]

/-! ### elements -/

theorem getClearAt_props : (i : Nat) → (xs : MElems) → xs.WF → ∀ x, xs.getClearAt i = some x →
    (xs.hview noneShown)[i]? = some (x.hview noneShown) ∧ x.WF
  | _, .nil, _, _, h => by simp [MElems.getClearAt] at h
  | 0, .clear x' r, wf, x, h => by
    simp only [MElems.WF] at wf
    simp [MElems.getClearAt] at h; subst h
    exact ⟨by simp [MElems.hview], wf.1⟩
  | 0, .marked dg x' r, _, _, h => by simp [MElems.getClearAt] at h
  | 0, .decoy dg r, _, _, h => by simp [MElems.getClearAt] at h
  | i+1, .clear x' r, wf, x, h => by
    simp only [MElems.WF] at wf
    simpa [MElems.getClearAt, MElems.hview] using getClearAt_props i r wf.2 x (by simpa [MElems.getClearAt] using h)
  | i+1, .marked dg x' r, wf, x, h => by
    simp only [MElems.WF] at wf
    simpa [MElems.getClearAt, MElems.hview] using getClearAt_props i r wf.2 x (by simpa [MElems.getClearAt] using h)
  | i+1, .decoy dg r, wf, x, h => by
    simp only [MElems.WF] at wf
    simpa [MElems.getClearAt, MElems.hview] using getClearAt_props i r wf x (by simpa [MElems.getClearAt] using h)

theorem hview_setClearAt (y : MJ) : (i : Nat) → (xs : MElems) → ∀ x, xs.getClearAt i = some x →
    (xs.setClearAt y i).hview noneShown = (xs.hview noneShown).set i (y.hview noneShown)
  | _, .nil, _, h => by simp [MElems.getClearAt] at h
  | 0, .clear x' r, x, _ => by simp [MElems.setClearAt, MElems.hview]
  | 0, .marked dg x' r, _, h => by simp [MElems.getClearAt] at h
  | 0, .decoy dg r, _, h => by simp [MElems.getClearAt] at h
  | i+1, .clear x' r, x, h => by
    simp [MElems.setClearAt, MElems.hview, hview_setClearAt y i r x (by simpa [MElems.getClearAt] using h)]
  | i+1, .marked dg x' r, x, h => by
    simp [MElems.setClearAt, MElems.hview, hview_setClearAt y i r x (by simpa [MElems.getClearAt] using h)]
  | i+1, .decoy dg r, x, h => by
    simp [MElems.setClearAt, MElems.hview, hview_setClearAt y i r x (by simpa [MElems.getClearAt] using h)]

theorem hview_toMarkedAt (dg : String) : (i : Nat) → (xs : MElems) → ∀ x, xs.getClearAt i = some x →
    (xs.toMarkedAt dg i).hview noneShown = (xs.hview noneShown).set i (placeholder dg)
  | _, .nil, _, h => by simp [MElems.getClearAt] at h
  | 0, .clear x' r, x, _ => by simp [MElems.toMarkedAt, MElems.hview]
  | 0, .marked dg' x' r, _, h => by simp [MElems.getClearAt] at h
  | 0, .decoy dg' r, _, h => by simp [MElems.getClearAt] at h
  | i+1, .clear x' r, x, h => by
    simp [MElems.toMarkedAt, MElems.hview, hview_toMarkedAt dg i r x (by simpa [MElems.getClearAt] using h)]
  | i+1, .marked dg' x' r, x, h => by
    simp [MElems.toMarkedAt, MElems.hview, hview_toMarkedAt dg i r x (by simpa [MElems.getClearAt] using h)]
  | i+1, .decoy dg' r, x, h => by
    simp [MElems.toMarkedAt, MElems.hview, hview_toMarkedAt dg i r x (by simpa [MElems.getClearAt] using h)]

/-! ### one path -/

/-- the model's readers of array indices -/
def pI : String → Option Nat := fun t => parseIndex t.toList
def pU : String → Option Nat := fun t => parseUsize t.toList

/-- **Induction along `markIn`.** Whatever relation between the path walked, the tree before, the
tree after and the disclosure is established by marking a member, marking an element, and is kept
by replacing a clear member / element along the way, holds of every defined `markIn`. -/
theorem markIn_induct (mk : Option String → J → String) (last : String)
    (P : List String → MJ → MJ → SDisc → Prop)
    (hobj : ∀ ms sd x, ¬(last = "_sd" ∨ last = "...") → ms.getClear last = some x →
      P [] (.obj ms sd)
        (.obj (ms.toMarked last (mk (some last) x.payload)) (some (sd.getD [] ++ [mk (some last) x.payload])))
        ⟨mk (some last) x.payload, some last, x.payload⟩)
    (harr : ∀ xs i x, pU last = some i → xs.getClearAt i = some x →
      P [] (.arr xs) (.arr (xs.toMarkedAt (mk none x.payload) i)) ⟨mk none x.payload, none, x.payload⟩)
    (hsetM : ∀ ms sd t r x x' d, ms.getClear t = some x → P r x x' d →
      P (t :: r) (.obj ms sd) (.obj (ms.setClear t x') sd) d)
    (hsetE : ∀ xs t r i x x' d, pI t = some i → xs.getClearAt i = some x → P r x x' d →
      P (t :: r) (.arr xs) (.arr (xs.setClearAt x' i)) d) :
    (toks : List String) → (T T' : MJ) → (d : SDisc) →
    MJ.markIn pI pU mk toks last T = some (T', d) → P toks T T' d
  | [], T, T', d, h => by
    simp only [MJ.markIn] at h
    cases T with
    | leaf j => simp [MJ.markChild] at h
    | arr xs =>
      simp only [MJ.markChild] at h
      cases hp : pU last with
      | none => simp [hp] at h
      | some i =>
        simp only [hp] at h
        cases hg : xs.getClearAt i with
        | none => simp [hg] at h
        | some x =>
          simp only [hg, Option.some.injEq, Prod.mk.injEq] at h
          obtain ⟨rfl, rfl⟩ := h
          exact harr xs i x hp hg
    | obj ms sd =>
      simp only [MJ.markChild] at h
      by_cases hr : last = "_sd" ∨ last = "..."
      · simp [hr] at h
      · simp only [hr, if_false] at h
        cases hg : ms.getClear last with
        | none => simp [hg] at h
        | some x =>
          simp only [hg, Option.some.injEq, Prod.mk.injEq] at h
          obtain ⟨rfl, rfl⟩ := h
          exact hobj ms sd x hr hg
  | t :: r, T, T', d, h => by
    simp only [MJ.markIn] at h
    cases hc : T.child pI t with
    | none => simp [hc] at h
    | some x =>
      simp only [hc] at h
      cases hm : MJ.markIn pI pU mk r last x with
      | none => simp [hm] at h
      | some res =>
        obtain ⟨x', d'⟩ := res
        simp only [hm, Option.some.injEq, Prod.mk.injEq] at h
        obtain ⟨rfl, rfl⟩ := h
        have ih := markIn_induct mk last P hobj harr hsetM hsetE r x x' d' hm
        cases T with
        | leaf j => simp [MJ.child] at hc
        | arr xs =>
          simp only [MJ.child] at hc
          cases hp : pI t with
          | none => simp [hp] at hc
          | some i =>
            simp only [hp, Option.bind_some] at hc
            simpa [MJ.setChild, hp] using hsetE xs t r i x x' d' hp hc ih
        | obj ms sd =>
          simp only [MJ.child] at hc
          simpa [MJ.setChild] using hsetM ms sd t r x x' d' hc ih

theorem aget_withSd_ne (sd : Option (List String)) (k : String) (l : List (String × J)) (hk : k ≠ "_sd") :
    aget k (withSd sd l) = aget k l := by
  cases sd with
  | none => rfl
  | some ds => exact aget_ains_ne _ hk l

/-- marking a member = the body of `build_disclosure` on the object's payload -/
theorem hideIn_toMarked (mk : Option String → J → String) (last : String) (ms : MMems)
    (sd : Option (List String)) (x : MJ) (wf : ms.WF) (hr : ¬(last = "_sd" ∨ last = "..."))
    (hg : ms.getClear last = some x) :
    hideIn mk last (MJ.obj ms sd).payload =
      .ok ((MJ.obj (ms.toMarked last (mk (some last) x.payload))
        (some (sd.getD [] ++ [mk (some last) x.payload]))).payload, ⟨some last, x.payload, mk (some last) x.payload⟩) := by
  obtain ⟨h1, h2, _, _⟩ := getClear_props last ms wf x hg
  have hsorted := sorted_hview noneShown ms wf
  have hnosd := aget_sd_hview noneShown ms wf
  have hlast : aget last (withSd sd (ms.hview noneShown)) = some (x.hview noneShown) := by
    rw [aget_withSd_ne sd last _ h2]; exact h1
  cases sd with
  | none =>
    have hsd' : aget "_sd" (adel last (ms.hview noneShown)) = none := by
      rw [aget_adel_ne (fun e => h2 e.symm)]; exact hnosd
    simp [MJ.payload, MJ.hview, withSd, hideIn, h1, hr, hsd', hview_toMarked last _ ms wf x hg]
  | some ds =>
    have hadel : adel last (ains "_sd" (J.arr (ds.map .str)) (ms.hview noneShown)) =
        ains "_sd" (J.arr (ds.map .str)) (adel last (ms.hview noneShown)) :=
      adel_ains_ne last "_sd" _ _ hsorted h2
    simp only [withSd] at hlast
    simp [MJ.payload, MJ.hview, withSd, hideIn, hlast, hr, hadel, aget_ains_self, ains_ains_same,
      hview_toMarked last _ ms wf x hg]

/-- **T-issue, one path.** If the specification's marking of `last` below `toks` is defined on the
tree `T`, the issuer model's update of `T`'s payload yields the payload of the marked tree, and
the disclosure it records is the disclosure of the marked node. -/
theorem updateAt_markIn (mk : Option String → J → String) (last : String) :
    (toks : List String) → (T T' : MJ) → (d : SDisc) → T.WF →
    MJ.markIn pI pU mk toks last T = some (T', d) →
    updateAt (hideIn mk last) toks T.payload = .ok (T'.payload, ⟨d.key, d.value, d.digest⟩) := by
  intro toks T T' d wf h
  revert wf
  refine markIn_induct mk last (fun toks T T' d => T.WF →
    updateAt (hideIn mk last) toks T.payload = .ok (T'.payload, ⟨d.key, d.value, d.digest⟩))
    ?_ ?_ ?_ ?_ toks T T' d h
  · intro ms sd x hr hg wf
    simpa [updateAt] using hideIn_toMarked mk last ms sd x wf.1 hr hg
  · intro xs i x hp hg wf
    have hp' : parseUsize last.toList = some i := hp
    simp [updateAt, MJ.payload, MJ.hview, hideIn, hp', (getClearAt_props i xs wf x hg).1,
      hview_toMarkedAt _ i xs x hg]
  · intro ms sd t r x x' d hc ih wf
    obtain ⟨h1, h2, _, wfx⟩ := getClear_props t ms wf.1 x hc
    have hget : aget t (withSd sd (ms.hview noneShown)) = some (x.hview noneShown) := by
      rw [aget_withSd_ne sd t _ h2]; exact h1
    have ih := ih wfx
    simp only [MJ.payload] at ih
    cases sd with
    | none =>
      simp only [withSd] at hget
      simp [MJ.payload, MJ.hview, withSd, updateAt, hget, ih, hview_setClear t x' ms wf.1 x hc]
    | some ds =>
      simp only [withSd] at hget
      simp [MJ.payload, MJ.hview, withSd, updateAt, hget, ih, hview_setClear t x' ms wf.1 x hc,
        ains_comm _ _ _ _ _ (sorted_hview noneShown ms wf.1) h2]
  · intro xs t r i x x' d hp hc ih wf
    obtain ⟨h1, wfx⟩ := getClearAt_props i xs wf x hc
    have hp' : parseIndex t.toList = some i := hp
    have ih := ih wfx
    simp only [MJ.payload] at ih
    simp [MJ.payload, MJ.hview, updateAt, hp', h1, ih, hview_setClearAt x' i xs x hc]

end Impl

namespace Impl

/-! ### marking preserves the claims -/

/-- marking a node does not change the claims the tree stands for -/
theorem markIn_plain (mk : Option String → J → String) (last : String) (toks : List String)
    (T T' : MJ) (d : SDisc) (h : MJ.markIn pI pU mk toks last T = some (T', d)) : T'.plain = T.plain := by
  refine markIn_induct mk last (fun _ T T' _ => T'.plain = T.plain) ?_ ?_ ?_ ?_ toks T T' d h
  · intro ms sd x _ hg
    obtain ⟨l1, l2, e1, _, e3⟩ := (Obs.project fun _ => true).at_clear last x ms hg
    simp only [MJ.plain, MJ.project, e1, e3, if_true]
  · intro xs i x _ hg
    obtain ⟨l1, l2, e1, _, e3⟩ := (Obs.projectE fun _ => true).at_clear x i xs hg
    simp only [MJ.plain, MJ.project, e1, e3, if_true]
  · intro ms sd t r x x' d hc ih
    obtain ⟨l1, l2, e1, e2, _⟩ := (Obs.project fun _ => true).at_clear t x ms hc
    simp only [MJ.plain] at ih
    simp only [MJ.plain, MJ.project, e1, e2, ih]
  · intro xs t r i x x' d _ hc ih
    obtain ⟨l1, l2, e1, e2, _⟩ := (Obs.projectE fun _ => true).at_clear x i xs hc
    simp only [MJ.plain] at ih
    simp only [MJ.plain, MJ.project, e1, e2, ih]

end Impl

namespace Impl

/-! ### marking preserves well-formedness (for a digest that is new to the tree) -/

theorem keysGt_setClear (k k0 : String) (y : MJ) : (ms : MMems) → ms.keysGt k0 → (ms.setClear k y).keysGt k0
  | .nil, _ => trivial
  | .clear k' x r, h => by
    simp only [MMems.keysGt] at h
    simp only [MMems.setClear]
    split
    · exact ⟨h.1, h.2⟩
    · exact ⟨h.1, keysGt_setClear k k0 y r h.2⟩
  | .marked k' dg x r, h => by
    simp only [MMems.keysGt] at h
    exact ⟨h.1, keysGt_setClear k k0 y r h.2⟩

theorem keysGt_toMarked (k dg k0 : String) : (ms : MMems) → ms.keysGt k0 → (ms.toMarked k dg).keysGt k0
  | .nil, _ => trivial
  | .clear k' x r, h => by
    simp only [MMems.keysGt] at h
    simp only [MMems.toMarked]
    split
    · exact ⟨h.1, h.2⟩
    · exact ⟨h.1, keysGt_toMarked k dg k0 r h.2⟩
  | .marked k' dg' x r, h => by
    simp only [MMems.keysGt] at h
    exact ⟨h.1, keysGt_toMarked k dg k0 r h.2⟩

theorem wf_setClear (k : String) (y : MJ) (hy : y.WF) : (ms : MMems) → ms.WF → (ms.setClear k y).WF
  | .nil, _ => trivial
  | .clear k' x r, wf => by
    simp only [MMems.WF] at wf
    simp only [MMems.setClear]
    split
    · exact ⟨wf.1, wf.2.1, hy, wf.2.2.2.1, wf.2.2.2.2⟩
    · exact ⟨wf.1, wf.2.1, wf.2.2.1, keysGt_setClear k k' y r wf.2.2.2.1, wf_setClear k y hy r wf.2.2.2.2⟩
  | .marked k' dg x r, wf => by
    simp only [MMems.WF] at wf
    exact ⟨wf.1, wf.2.1, wf.2.2.1, keysGt_setClear k k' y r wf.2.2.2.1, wf_setClear k y hy r wf.2.2.2.2⟩

theorem wf_toMarked (k dg : String) : (ms : MMems) → ms.WF → (ms.toMarked k dg).WF
  | .nil, _ => trivial
  | .clear k' x r, wf => by
    simp only [MMems.WF] at wf
    simp only [MMems.toMarked]
    split
    · exact ⟨wf.1, wf.2.1, wf.2.2.1, wf.2.2.2.1, wf.2.2.2.2⟩
    · exact ⟨wf.1, wf.2.1, wf.2.2.1, keysGt_toMarked k dg k' r wf.2.2.2.1, wf_toMarked k dg r wf.2.2.2.2⟩
  | .marked k' dg' x r, wf => by
    simp only [MMems.WF] at wf
    exact ⟨wf.1, wf.2.1, wf.2.2.1, keysGt_toMarked k dg k' r wf.2.2.2.1, wf_toMarked k dg r wf.2.2.2.2⟩

theorem wf_setClearAt (y : MJ) (hy : y.WF) : (i : Nat) → (xs : MElems) → xs.WF → (xs.setClearAt y i).WF
  | 0, .nil, _ => trivial
  | _+1, .nil, _ => trivial
  | 0, .clear x r, wf => by simp only [MElems.WF] at wf; exact ⟨hy, wf.2⟩
  | 0, .marked dg x r, wf => wf
  | 0, .decoy dg r, wf => wf
  | i+1, .clear x r, wf => by simp only [MElems.WF] at wf; exact ⟨wf.1, wf_setClearAt y hy i r wf.2⟩
  | i+1, .marked dg x r, wf => by simp only [MElems.WF] at wf; exact ⟨wf.1, wf_setClearAt y hy i r wf.2⟩
  | i+1, .decoy dg r, wf => by simp only [MElems.WF] at wf; exact wf_setClearAt y hy i r wf

theorem wf_toMarkedAt (dg : String) : (i : Nat) → (xs : MElems) → xs.WF → (xs.toMarkedAt dg i).WF
  | 0, .nil, _ => trivial
  | _+1, .nil, _ => trivial
  | 0, .clear x r, wf => by simp only [MElems.WF] at wf; exact ⟨wf.1, wf.2⟩
  | 0, .marked dg' x r, wf => wf
  | 0, .decoy dg' r, wf => wf
  | i+1, .clear x r, wf => by simp only [MElems.WF] at wf; exact ⟨wf.1, wf_toMarkedAt dg i r wf.2⟩
  | i+1, .marked dg' x r, wf => by simp only [MElems.WF] at wf; exact ⟨wf.1, wf_toMarkedAt dg i r wf.2⟩
  | i+1, .decoy dg' r, wf => by simp only [MElems.WF] at wf; exact wf_toMarkedAt dg i r wf

/-- marking with a digest that is new to the tree keeps it conformant -/
theorem markIn_wf (mk : Option String → J → String) (last : String) (toks : List String)
    (T T' : MJ) (d : SDisc) (wf : T.WF) (h : MJ.markIn pI pU mk toks last T = some (T', d))
    (hfresh : ∀ g, g = d.digest → g ∉ T.digests) : T'.WF := by
  revert wf hfresh
  refine markIn_induct mk last (fun _ T T' d => T.WF → (∀ g, g = d.digest → g ∉ T.digests) → T'.WF)
    ?_ ?_ ?_ ?_ toks T T' d h
  · intro ms sd x _ hg wf hfresh
    obtain ⟨m1, m2, f1, _, f3⟩ := Obs.marks.at_clear last x ms hg
    -- the members' marks are listed in `sd`, hence among the tree's digests: the new one is none of them
    have hnew : mk (some last) x.payload ∉ ms.marks := fun hm =>
      hfresh _ rfl (by simp [MJ.digests, wf.2.1 _ hm])
    have hp : (ms.toMarked last (mk (some last) x.payload)).marks.Perm (mk (some last) x.payload :: ms.marks) := by
      rw [f3, f1]; exact perm_insert_mid _ m1 [] m2
    refine ⟨wf_toMarked last _ ms wf.1, fun g hgm => ?_, hp.symm.nodup (List.nodup_cons.mpr ⟨hnew, wf.2.2⟩)⟩
    rcases List.mem_cons.mp (hp.subset hgm) with h1 | h1
    · simp [h1]
    · simp [wf.2.1 g h1]
  · intro xs i x _ _ wf _
    exact wf_toMarkedAt _ i xs wf
  · intro ms sd t r x x' d hc ih wf hfresh
    obtain ⟨l1, l2, e1, _, _⟩ := Obs.digests.at_clear t x ms hc
    obtain ⟨m1, m2, f1, f2, _⟩ := Obs.marks.at_clear t x ms hc
    have ih := ih (getClear_props t ms wf.1 x hc).2.2.2
      (fun g hg hin => hfresh g hg (by simp [MJ.digests, e1, hin]))
    simp only [MJ.WF, f2, ← f1]
    exact ⟨wf_setClear t x' ih ms wf.1, wf.2.1, wf.2.2⟩
  · intro xs t r i x x' d _ hc ih wf hfresh
    obtain ⟨l1, l2, e1, _, _⟩ := Obs.digestsE.at_clear x i xs hc
    exact wf_setClearAt x' (ih (getClearAt_props i xs wf x hc).2
      (fun g hg hin => hfresh g hg (by simp [MJ.digests, e1, hin]))) i xs wf

end Impl
