import SdJwt.Lemmas.Redact
/-!
# Issuer → holder → redaction → key binding → verifier, for a token bound to a holder key

The chain of `redact_verify_issued` for a bound token: the presentation `Holder::build` makes
after `redact(R)` is followed by a key-binding JWT; if the JWT library accepts that JWT under the
bound key, it is typed `kb+jwt` and its `sd_hash` is the hash of the presentation up to its last
`~` (which is what `Holder::build` puts there: `holder_build_bound`), then the verifier accepts
and returns the issued claims minus exactly the redacted claims and everything inside them, plus
`cnf`.
-/
open Assoc Spec Path
namespace Impl

theorem redact_verify_issued_bound (rt : Rt) (mk : Nat → Option String → J → String)
    (paths : List String) (addr : List (List String × String)) (ms : MMems) (Tn : MJ)
    (ds : List SDisc) (decoys : Option (List String)) (X : MJ) (jwt : String) (header : J)
    (strs : List String) (R : List String)
    (wf : (MJ.obj ms none).WF) (hplain : (MJ.obj ms none).digests = [])
    (hk1 : "_sd_alg" ∉ ms.keys) (hk2 : "cnf" ∉ ms.keys)
    (hp : ParsedAll paths addr) (h : markAll mk 0 addr (.obj ms none) = some (Tn, ds)) (hne : ds ≠ [])
    (hdec : ∀ l, decoys = some l → l.Nodup ∧ (∀ g ∈ l, g ∉ Tn.digests))
    (hX : X.WF ∧ X.digests = [])
    (hsig : ∀ payload dsrc,
      encode (MJ.obj ms none).payload paths mk decoys (some X.payload) = .ok (payload, dsrc) →
      rt.jwtDecode jwt = .ok (header, payload))
    (hstr : ∀ s ∈ strs, ∃ e ∈ ds,
      fromBase64 (rt.env "sha-256") s = .ok ⟨s, e.digest, e.key, e.value⟩)
    (hnd : (strs.map (rt.hash "sha-256")).Nodup)
    (hall : ∀ e ∈ ds, ∃ s ∈ strs, rt.hash "sha-256" s = e.digest)
    (hj : '~' ∉ jwt.toList) (hs : ∀ s ∈ strs, '~' ∉ s.toList)
    (hkty : (jidx X.payload "kty").asStr = some "RSA")
    (he : (jidx X.payload "e").asStr.isSome = true) (hn : (jidx X.payload "n").asStr.isSome = true) :
    ∃ ps, Holder.verify rt (assemble jwt strs) = .ok (header, expectedClaims ms (some X), ps) ∧
      ∀ (kb : String) (kh kc : J), '~' ∉ kb.toList → kb.toList ≠ [] →
        rt.kbDecode kb X.payload = .ok (kh, kc) →
        (jidx kh "typ").asStr = some "kb+jwt" →
        (jidx kc "sd_hash").asStr = some (rt.hash "sha-256" (assemble jwt (keptDisclosures ps R))) →
        ∃ msn sdn, Tn = .obj msn sdn ∧
          Verifier.verify rt (assemble jwt (keptDisclosures ps R) ++ kb) true =
            .ok (header, .obj (ains "cnf" X.plain (msn.project (notRedacted Tn R)))) := by
  have I : Issued mk paths addr ms Tn ds decoys (some X) :=
    ⟨wf, hplain, hk1, hk2, hp, h, hne, hdec, by intro X' hX'; cases hX'; exact hX⟩
  obtain ⟨ps, hver, hperm, hfrom⟩ := holder_verify_issued rt mk paths addr ms Tn ds decoys (some X) jwt header
    strs wf hplain hk1 hk2 hp h hne hdec I.key hsig hstr hnd hall hj hs
  obtain ⟨hsub, hndk, hsel⟩ := kept_selection (rt.env "sha-256") Tn I.inv ps hperm strs hfrom R
  refine ⟨ps, hver, fun kb kh kc hkb hkbne hkbdec htyp hhash => ?_⟩
  obtain ⟨msn, sdn, rfl, hv⟩ := verifier_verify_issued_bound rt mk paths addr ms Tn ds decoys X jwt header
    (keptDisclosures ps R) kb kh kc wf hplain hk1 hk2 hp h hne hdec hX hsig
    (fun s hs' => hstr s (hsub s hs')) hndk hj (fun s hs' => hs s (hsub s hs')) hkb hkbne hkty he hn
    hkbdec htyp hhash
  refine ⟨msn, sdn, rfl, ?_⟩
  simp only [MJ.project, J.obj.injEq] at hsel
  rw [hv, project_plain_of_no_marks _ X (no_digests X hX.1 hX.2).1]
  exact congrArg (fun x => Outcome.ok (header, J.obj (ains "cnf" X.plain x))) hsel

/-- what `Holder::build` makes of a bound token with key-binding parameters: the kept
presentation, and a key-binding JWT content whose `sd_hash` is the hash of exactly that string -/
theorem holder_build_bound (rt : Rt) (jwt : String) (ps : List PathEntry) (R : List String)
    (p : KbParams) (nonce : String) (now : Int) (a b sig : List Char) (payload : J)
    (hseg : splitOn '.' jwt.toList = [a, b, sig])
    (hclaims : rt.decodeClaims (strOf b) = some payload)
    (halg : (jidx payload "_sd_alg").asStr = some "sha-256")
    (hcnf : (jget? payload "cnf").isSome = true) :
    Holder.build rt { sdJwt := jwt, paths := ps } R (some p) nonce now =
      .ok (assemble jwt (keptDisclosures ps R),
           some { typ := "kb+jwt", alg := p.alg, aud := p.aud, nonce := nonce, iat := now,
                  sdHash := rt.hash "sha-256" (assemble jwt (keptDisclosures ps R)) }) := by
  have hpart : getJwtPart jwt.toList .claims = .ok b := by simp [getJwtPart, hseg]
  have hclaims' : rt.decodeClaims (String.ofList b) = some payload := hclaims
  simp [Holder.build, hpart, strOf, hclaims', hcnf, halg, parseHashAlg]

end Impl
