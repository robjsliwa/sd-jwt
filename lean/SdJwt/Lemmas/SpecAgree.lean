import SdJwt.Lemmas.RefSound
import SdJwt.Lemmas.Finish
import SdJwt.Lemmas.EndToEnd
/-!
# The library's restorer and the specification's algorithm agree on conformant SD-JWTs
-/
open Assoc Spec
namespace Impl

/-- a string that decodes to the JSON array of a disclosure whose name is not reserved is read by
`Disclosure::from_base64` as that disclosure -/
theorem fromBase64_discJ (env : Env) (s : String) (e : SDisc) (salt : J)
    (hk : ∀ k, e.key = some k → k ≠ "_sd" ∧ k ≠ "...")
    (hd : env.decodeDisc s = some (Ref.discJ salt e)) (hh : env.hash s = e.digest) :
    fromBase64 env s = .ok ⟨s, e.digest, e.key, e.value⟩ := by
  unfold fromBase64
  rw [hd]
  unfold Ref.discJ
  cases h : e.key with
  | none => simp [hh]
  | some k => simp [hk k h, hh]

/-- **The restorer does what the specification says.** For every conformant tree with pairwise
distinct digests and ANY selection of its disclosures presented as strings in ANY order (each
string decoding to the JSON array of its disclosure and hashing to its digest): the library's
restorer accepts, the specification's algorithm accepts, and — after the library's stripping and
dropping of `_sd_alg` — they return the same claims. -/
theorem restore_agrees_with_spec (env : Env) (T : MJ) (inv : TreeInv T)
    (sub : List (String × SDisc × J))
    (hsub : ∀ p ∈ sub, p.2.1 ∈ T.discs ∧ p.2.1.digest ∉ T.deepStale ∧
      env.decodeDisc p.1 = some (Ref.discJ p.2.2 p.2.1) ∧ env.hash p.1 = p.2.1.digest)
    (hnd : (sub.map (·.2.1.digest)).Nodup) :
    ∃ c ps, restoreAll env T.payload (sub.map (·.1)) = .ok (c, ps) ∧
      Ref.verify false T.payload (Ref.tblOf (sub.map (fun p => (p.2.1, p.2.2)))) = .ok (removeDigests c) := by
  have hhash : (sub.map (·.1)).map env.hash = sub.map (·.2.1.digest) := by
    rw [List.map_map]
    exact List.map_congr_left fun p hp => (hsub p hp).2.2.2
  obtain ⟨c, ps, hr, hc⟩ := restore_own env T inv (sub.map (·.1)) (by
      intro s hs
      obtain ⟨p, hp, rfl⟩ := List.mem_map.mp hs
      obtain ⟨h1, h2, h3, h4⟩ := hsub p hp
      exact ⟨p.2.1, h1, h2, fromBase64_discJ env p.1 p.2.1 p.2.2 (Ref.MJ.discs_key_ok T inv.wf _ h1) h3 h4⟩)
    (by rw [hhash]; exact hnd)
  refine ⟨c, ps, hr, ?_⟩
  have hv := Ref.verify_own T inv.wf inv.nd inv.ndm (sub.map (fun p => (p.2.1, p.2.2)))
    (by
      intro q hq
      obtain ⟨p, hp, rfl⟩ := List.mem_map.mp hq
      exact ⟨(hsub p hp).1, (hsub p hp).2.1⟩)
    (by simpa [List.map_map, Function.comp_def] using hnd)
  rw [hv, removeDigests_eq, hc]
  -- the two selections are the same
  have hsel : (fun g => (sub.map (fun p => (p.2.1, p.2.2))).any (fun p => decide (p.1.digest = g))) =
      (fun g => (sub.map (·.1)).any (fun s => decide (env.hash s = g))) := funext fun g => by
    simpa [Function.comp_def] using (congrArg (List.any · (· = g)) hhash).symm
  rw [hsel]
  cases T.project (fun g => (sub.map (·.1)).any (fun s => decide (env.hash s = g))) <;> rfl

end Impl
