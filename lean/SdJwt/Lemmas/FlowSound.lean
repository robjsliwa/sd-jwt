import SdJwt.Lemmas.EndToEnd
import SdJwt.Lemmas.RestoreAll
/-!
# Soundness at the level of the flows

Whatever string is presented: if `Verifier::verify` / `Holder::verify` return claims, these are
`remove_digests` of what the restorer made of the payload the JWT library returned, and of the
disclosure strings found in the presented string.  With T-restore: they are a projection of the
signed claims.
-/
open Assoc Spec
namespace Impl

theorem verifier_verifyRaw_inv (rt : Rt) (tok : String) (policy : Bool) (h c : J) (ds : List String)
    (hv : Verifier.verifyRaw rt tok policy = .ok (h, c, ds)) :
    ∃ parts, sdJwtParts tok.toList = .ok parts ∧ rt.jwtDecode (strOf parts.jwt) = .ok (h, c) ∧
      ds = parts.disclosures.map strOf := by
  obtain ⟨parts, _, _, hp, hj, _, _, hds, _⟩ := (Verifier.verifyRaw_ok_iff ..).mp hv
  exact ⟨parts, hp, hj, hds⟩

/-- what `Verifier::verify` returns, when it returns -/
theorem verifier_verify_inv (rt : Rt) (tok : String) (policy : Bool) (h c : J)
    (hv : Verifier.verify rt tok policy = .ok (h, c)) :
    ∃ parts p alg c0 ps, sdJwtParts tok.toList = .ok parts ∧
      rt.jwtDecode (strOf parts.jwt) = .ok (h, p) ∧
      restoreAll (rt.env alg) p (parts.disclosures.map strOf) = .ok (c0, ps) ∧ c = removeDigests c0 := by
  obtain ⟨p, ds, alg, c0, ps, hr, _, hres, rfl⟩ := (Verifier.verify_ok_iff ..).mp hv
  obtain ⟨parts, _, _, hp, hj, _, _, rfl, _⟩ := (Verifier.verifyRaw_ok_iff ..).mp hr
  exact ⟨parts, p, alg, c0, ps, hp, hj, hres, rfl⟩

theorem holder_verify_inv (rt : Rt) (tok : String) (h c : J) (ps : List PathEntry)
    (hv : Holder.verify rt tok = .ok (h, c, ps)) :
    ∃ parts p alg c0, sdJwtParts tok.toList = .ok parts ∧
      rt.jwtDecode (strOf parts.jwt) = .ok (h, p) ∧
      restoreAll (rt.env alg) p (parts.disclosures.map strOf) = .ok (c0, ps) ∧ c = removeDigests c0 := by
  obtain ⟨p, ds, alg, c0, hr, _, hres, rfl⟩ := (Holder.verify_ok_iff ..).mp hv
  obtain ⟨parts, _, _, hp, _, hj, _, _, rfl⟩ := (Holder.verifyRaw_ok_iff ..).mp hr
  exact ⟨parts, p, alg, c0, hp, hj, hres, rfl⟩

/-- what `verify` returns is the projection of the signed tree on the presented segments, for both
flows: the common step after the ladder -/
theorem strip_restored (rt : Rt) (T : MJ) (inv : TreeInv T)
    (hacc : ∀ alg s d, fromBase64 (rt.env alg) s = .ok d → DOk T d) (alg : String) (strs : List String)
    (c0 : J) (ps : List PathEntry) (hres : restoreAll (rt.env alg) T.payload strs = .ok (c0, ps)) :
    removeDigests c0 = dropAlg (T.project (fun g => strs.any (fun s => rt.hash alg s = g))) := by
  rw [removeDigests_eq]
  rcases restoreAll_sound (rt.env alg) T _ inv (fun s _ d hf => hacc alg s d hf) with ⟨e, he⟩ | ⟨c', ps', h', hp'⟩
  · rw [he] at hres; cases hres
  · rw [h'] at hres
    cases hres
    rw [hp']
    rfl

/-- the flow theorem with the selection named: the segments found in the presented string, hashed
under the algorithm the restorer ran with -/
theorem verifier_flow_sound_segments (rt : Rt) (tok : String) (policy : Bool) (T : MJ) (inv : TreeInv T)
    (hsig : ∀ j h p, rt.jwtDecode j = .ok (h, p) → p = T.payload)
    (hacc : ∀ alg s d, fromBase64 (rt.env alg) s = .ok d → DOk T d) (h c : J)
    (hv : Verifier.verify rt tok policy = .ok (h, c)) :
    ∃ (parts : Parts) (alg : String), sdJwtParts tok.toList = .ok parts ∧
      c = dropAlg (T.project (fun g => (parts.disclosures.map strOf).any (fun s => rt.hash alg s = g))) := by
  obtain ⟨parts, p, alg, c0, ps, hp, hj, hres, rfl⟩ := verifier_verify_inv rt tok policy h c hv
  cases hsig _ _ _ hj
  exact ⟨parts, alg, hp, strip_restored rt T inv hacc alg _ c0 ps hres⟩

/-- **C03 at the level of the flows.** Let `T` be a conformant tree and suppose that whatever
the JWT library accepts carries the payload of `T` (unforgeability: the only validly signed
payload around is the issuer's), and that every decodable disclosure string is acceptable for
`T` (collision resistance).  Then for EVERY presented string — any disclosures, any order,
any garbage, with or without a key-binding JWT — if the verifier returns claims, they are the
claims of `T` with exactly those marked nodes present whose own and enclosing disclosures are
among the presented strings (minus a top-level `_sd_alg`): nothing the issuer did not sign. -/
theorem verifier_flow_sound (rt : Rt) (tok : String) (policy : Bool) (T : MJ) (inv : TreeInv T)
    (hsig : ∀ j h p, rt.jwtDecode j = .ok (h, p) → p = T.payload)
    (hacc : ∀ alg s d, fromBase64 (rt.env alg) s = .ok d → DOk T d) (h c : J)
    (hv : Verifier.verify rt tok policy = .ok (h, c)) :
    ∃ (alg : String) (strs : List String), c = dropAlg (T.project (fun g => strs.any (fun s => rt.hash alg s = g))) := by
  obtain ⟨parts, alg, _, hc⟩ := verifier_flow_sound_segments rt tok policy T inv hsig hacc h c hv
  exact ⟨alg, _, hc⟩

/-- the same for the holder -/
theorem holder_flow_sound (rt : Rt) (tok : String) (T : MJ) (inv : TreeInv T)
    (hsig : ∀ j h p, rt.jwtDecode j = .ok (h, p) → p = T.payload)
    (hacc : ∀ alg s d, fromBase64 (rt.env alg) s = .ok d → DOk T d) (h c : J) (ps : List PathEntry)
    (hv : Holder.verify rt tok = .ok (h, c, ps)) :
    ∃ (alg : String) (strs : List String), c = dropAlg (T.project (fun g => strs.any (fun s => rt.hash alg s = g))) := by
  obtain ⟨parts, p, alg, c0, _, hj, hres, rfl⟩ := holder_verify_inv rt tok h c ps hv
  cases hsig _ _ _ hj
  exact ⟨alg, _, strip_restored rt T inv hacc alg _ c0 ps hres⟩

end Impl
