import SdJwt.Lemmas.SdOrder
import SdJwt.Lemmas.Tree
/-!
Shuffling the digest lists of a value that is still in the clear — which is what the issuer does to a value
right before it hides it — is a permutation of visible digest lists of the whole working tree.
-/
open Spec

theorem MMems.sdPermVis_setClear (k : String) (x x' : MJ) (hx : x.sdPermVis x') :
    (M : MMems) → M.getClear k = some x → M.sdPermVis (M.setClear k x')
  | .clear k' y r, h => by
    by_cases hk : k' = k
    · obtain rfl : y = x := by simpa [hk] using h
      rw [MMems.setClear, if_pos hk]
      exact ⟨x', r, rfl, hx, MMems.sdPermVis_refl r⟩
    · rw [MMems.setClear, if_neg hk]
      exact ⟨y, _, rfl, MJ.sdPermVis_refl y, MMems.sdPermVis_setClear k x x' hx r (by simpa [hk] using h)⟩
  | .marked _ _ _ r, h => ⟨_, rfl, MMems.sdPermVis_setClear k x x' hx r h⟩

theorem MElems.sdPermVis_setClearAt (x x' : MJ) (hx : x.sdPermVis x') :
    (i : Nat) → (E : MElems) → E.getClearAt i = some x → E.sdPermVis (E.setClearAt x' i)
  | 0, .clear _ r, h => Option.some.inj h ▸ ⟨x', r, rfl, hx, MElems.sdPermVis_refl r⟩
  | i+1, .clear y r, h => ⟨y, _, rfl, MJ.sdPermVis_refl y, MElems.sdPermVis_setClearAt x x' hx i r h⟩
  | i+1, .marked _ _ r, h | i+1, .decoy _ r, h => ⟨_, rfl, MElems.sdPermVis_setClearAt x x' hx i r h⟩

/-- permuting the visible digest lists of a clear child is permuting visible digest lists of the parent -/
theorem MJ.sdPermVis_setChild (pi : String → Option Nat) (t : String) (x x' : MJ) (hx : x.sdPermVis x') :
    (T : MJ) → T.child pi t = some x → T.sdPermVis (MJ.setChild pi t x' T)
  | .obj ms sd, h => ⟨_, sd, rfl, MMems.sdPermVis_setClear t x x' hx ms h, sdOptPerm_refl sd⟩
  | .arr xs, h => by
    match hp : pi t with
    | none => simp [MJ.child, hp] at h
    | some i =>
      rw [MJ.setChild, hp]
      exact ⟨_, rfl, MElems.sdPermVis_setClearAt x x' hx i xs (by simpa [MJ.child, hp] using h)⟩

/-- the node reached through clear members / elements along `toks` -/
def MJ.getDeep (pi : String → Option Nat) : List String → MJ → Option MJ
  | [], T => some T
  | t :: r, T => (T.child pi t).bind (MJ.getDeep pi r)

/-- the tree with that node replaced -/
def MJ.replaceDeep (pi : String → Option Nat) : List String → MJ → MJ → MJ
  | [], _, y => y
  | t :: r, T, y =>
    match T.child pi t with
    | some c => MJ.setChild pi t (MJ.replaceDeep pi r c y) T
    | none => T

/-- **shuffling inside a value that is still in the clear, at any depth, is a permutation of visible digest
lists of the whole tree** — the step `IssueRun` allows before every marking -/
theorem MJ.sdPermVis_replaceDeep (pi : String → Option Nat) (x x' : MJ) (hx : x.sdPermVis x') :
    (toks : List String) → (T : MJ) → MJ.getDeep pi toks T = some x → T.sdPermVis (MJ.replaceDeep pi toks T x')
  | [], _, h => by
    obtain rfl := Option.some.inj h
    exact hx
  | t :: r, T, h => by
    match hc : T.child pi t with
    | none => simp [MJ.getDeep, hc] at h
    | some c =>
      simpa [MJ.replaceDeep, hc] using
        MJ.sdPermVis_setChild pi t c _ (MJ.sdPermVis_replaceDeep pi x x' hx r c (by simpa [MJ.getDeep, hc] using h)) T hc
