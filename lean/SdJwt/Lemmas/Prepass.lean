import SdJwt.Lemmas.Check
import SdJwt.Lemmas.View
import SdJwt.Lemmas.Strip
/-!
The validating pre-pass succeeds on conformant input: `check_digests` over the payload of a
conformant tree and over the values of any of its own disclosures (pairwise different) finds every
embedded digest once.
-/
open Assoc Spec
namespace Impl

theorem checkDigests_complete (j : J) (seen : List String) :
    hasBadSd j = false → hasBadPlaceholder j = false → (seen ++ embedded j).Nodup →
    checkDigests j seen = .ok (seen ++ embedded j) := fun h1 h2 h3 =>
  checkDigests_eq j seen ▸ walked_ok_iff.mpr ⟨by simp [h1, h2], .of_nodup_append h3, rfl⟩

/-! ### what the pre-pass sees in the payload of a conformant tree -/

attribute [local simp] embedded embedded.embL embedded.embM hasBadSd hasBadSd.badL hasBadSd.badM
  hasBadPlaceholder hasBadPlaceholder.bpL hasBadPlaceholder.bpM

theorem walk_scalar {j : J} (h : J.scalar j) : embedded j = [] ∧ hasBadSd j = false ∧
    hasBadPlaceholder j = false ∧ phDigest j = [] ∧ isBadPlaceholder j = false := by
  cases j <;> first | exact h.elim | exact ⟨rfl, rfl, rfl, rfl, rfl⟩

theorem walk_placeholder (g : String) : phDigest (placeholder g) = [g] ∧
    isBadPlaceholder (placeholder g) = false ∧ embedded (placeholder g) = [] ∧
    hasBadSd (placeholder g) = false ∧ hasBadPlaceholder (placeholder g) = false := by
  simp [placeholder, phDigest, isBadPlaceholder, aget]

/-- an array of strings, as an `_sd` holds them -/
theorem walk_strs (ds : List String) : strsOf (ds.map .str) = ds ∧ embedded.embL (ds.map .str) = [] ∧
    hasBadSd.badL (ds.map .str) = false ∧ hasBadPlaceholder.bpL (ds.map .str) = false := by
  induction ds with
  | nil => exact ⟨rfl, rfl, rfl, rfl⟩
  | cons d r ih => simpa [strsOf, phDigest, isBadPlaceholder] using ih

/-- a new member in which the walk finds nothing changes nothing, wherever it is inserted -/
theorem walk_ains (k : String) (v : J) (hv1 : embedded v = []) (hv2 : hasBadSd v = false)
    (hv3 : hasBadPlaceholder v = false) : (l : List (String × J)) → aget k l = none →
    embedded.embM (ains k v l) = embedded.embM l ∧
    hasBadSd.badM (ains k v l) = hasBadSd.badM l ∧
    hasBadPlaceholder.bpM (ains k v l) = hasBadPlaceholder.bpM l
  | [], _ => by simp [ains, hv1, hv2, hv3]
  | (k', v') :: r, h => by
    simp only [aget] at h
    have hkk : k ≠ k' := by intro e; simp [e] at h
    obtain ⟨i1, i2, i3⟩ := walk_ains k v hv1 hv2 hv3 r (by simpa [hkk] using h)
    by_cases hlt : k < k'
    · simp [ains, hlt, hv1, hv2, hv3]
    · simp [ains, hlt, hkk, i1, i2, i3]

/-- the object step: the `_sd` member contributes its strings and nothing else -/
theorem walk_withSd (sd : Option (List String)) (l : List (String × J)) (h : aget "_sd" l = none) :
    embedded (.obj (withSd sd l)) = sd.getD [] ++ embedded.embM l ∧
    hasBadSd (.obj (withSd sd l)) = hasBadSd.badM l ∧
    hasBadPlaceholder (.obj (withSd sd l)) = hasBadPlaceholder.bpM l := by
  cases sd with
  | none => simp [withSd, h]
  | some ds =>
    obtain ⟨s1, s2, s3, s4⟩ := walk_strs ds
    obtain ⟨w1, w2, w3⟩ := walk_ains "_sd" (.arr (ds.map .str)) (by simpa using s2) (by simpa using s3)
      (by simpa using s4) l h
    simp [withSd, aget_ains_self, s1, w1, w2, w3]

theorem phDigest_hview (S : String → Bool) : (T : MJ) → T.WF → phDigest (T.hview S) = [] ∧
    isBadPlaceholder (T.hview S) = false
  | .leaf _, wf => (walk_scalar wf).2.2.2
  | .arr _, _ => ⟨rfl, rfl⟩
  | .obj ms sd, ⟨wf, _⟩ => by simp [phDigest, isBadPlaceholder, aget_dots_withSd, aget_dots_hview S ms wf]

mutual
theorem MJ.prepass_view : (T : MJ) → T.WF →
    embedded (T.hview noneShown) = T.vdigests ∧ hasBadSd (T.hview noneShown) = false ∧
    hasBadPlaceholder (T.hview noneShown) = false
  | .leaf _, wf => ⟨(walk_scalar wf).1, (walk_scalar wf).2.1, (walk_scalar wf).2.2.1⟩
  | .arr xs, wf => MElems.prepass_view xs wf
  | .obj ms sd, ⟨wf, _⟩ => by
    obtain ⟨h1, h2, h3⟩ := MMems.prepass_view ms wf
    obtain ⟨w1, w2, w3⟩ := walk_withSd sd _ (aget_sd_hview noneShown ms wf)
    rw [MJ.hview, w1, w2, w3, h1]
    exact ⟨rfl, h2, h3⟩
theorem MElems.prepass_view : (xs : MElems) → xs.WF →
    embedded.embL (xs.hview noneShown) = xs.vdigests ∧ hasBadSd.badL (xs.hview noneShown) = false ∧
    hasBadPlaceholder.bpL (xs.hview noneShown) = false
  | .nil, _ => ⟨rfl, rfl, rfl⟩
  | .clear x r, ⟨wx, wr⟩ => by
    obtain ⟨h1, h2, h3⟩ := MJ.prepass_view x wx
    obtain ⟨r1, r2, r3⟩ := MElems.prepass_view r wr
    obtain ⟨p1, p2⟩ := phDigest_hview noneShown x wx
    simp [h1, h2, h3, r1, r2, r3, p1, p2]
  | .marked dg x r, ⟨_, wr⟩ => by
    obtain ⟨r1, r2, r3⟩ := MElems.prepass_view r wr
    obtain ⟨p1, p2, p3, p4, p5⟩ := walk_placeholder dg
    simp [r1, r2, r3, p1, p2, p3, p4, p5]
  | .decoy dg r, wr => by
    obtain ⟨r1, r2, r3⟩ := MElems.prepass_view r wr
    obtain ⟨p1, p2, p3, p4, p5⟩ := walk_placeholder dg
    simp [r1, r2, r3, p1, p2, p3, p4, p5]
theorem MMems.prepass_view : (ms : MMems) → ms.WF →
    embedded.embM (ms.hview noneShown) = ms.vdigests ∧ hasBadSd.badM (ms.hview noneShown) = false ∧
    hasBadPlaceholder.bpM (ms.hview noneShown) = false
  | .nil, _ => ⟨rfl, rfl, rfl⟩
  | .clear k x r, ⟨_, _, wx, _, wr⟩ => by
    obtain ⟨h1, h2, h3⟩ := MJ.prepass_view x wx
    obtain ⟨r1, r2, r3⟩ := MMems.prepass_view r wr
    simp [h1, h2, h3, r1, r2, r3]
  | .marked k dg x r, ⟨_, _, _, _, wr⟩ => MMems.prepass_view r wr
end

end Impl
