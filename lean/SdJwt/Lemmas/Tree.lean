import SdJwt.Spec.Marking
/-! The defining equations of the observables and edits of marked trees (`Spec/Marked`, `Spec/Marking`)
are simp lemmas: `simp` computes each of them one constructor deep. -/
attribute [simp] MJ.hview MElems.hview MMems.hview MJ.project MElems.project MMems.project
  MJ.digests MElems.digests MMems.digests MMems.marks MMems.keys MMems.keysGt MJ.WF MElems.WF MMems.WF
  MJ.discs MElems.discs MMems.discs MJ.topMarks MElems.topMarks MMems.topMarks
  MJ.paths MElems.paths MMems.paths MJ.reveal MElems.reveal MMems.reveal
  MJ.revealTop MElems.revealTop MMems.revealTop
  MJ.vdigests MElems.vdigests MMems.vdigests MJ.stale MElems.stale MMems.stale
  MJ.topDiscs MElems.topDiscs MMems.topDiscs MJ.tpaths MElems.tpaths MMems.tpaths MMems.ownPaths
  MMems.belowMarks MMems.revealBelow MMems.findOwn MJ.deepStale MElems.deepStale MMems.deepStale
  MJ.allMarks MElems.allMarks MMems.allMarks MJ.hiddenMarks MElems.hiddenMarks MMems.hiddenMarks
  MJ.hiddenE MElems.hiddenE MMems.hiddenE
  MMems.getClear MMems.setClear MMems.toMarked MElems.getClearAt MElems.setClearAt MElems.toMarkedAt
