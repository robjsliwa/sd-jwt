import SdJwt.Impl.Codec
import SdJwt.Lemmas.Base64L
import SdJwt.Lemmas.EndToEnd
/-!
# The disclosure strings of the issuer, down to base64url

With base64url in the model, what `holder_verify_issued` assumed of the disclosure strings —
each decodes to the disclosure it was made from, hashes to its digest, contains no `~` — is
derived from one assumption on the JSON text codec (`parse (render j) = some j`).
-/
open Assoc Spec
namespace Impl

/-- what `Disclosure::build` makes, `Disclosure::from_base64` reads back: same name, same value, and
the digest is `base64_hash` of the string itself -/
theorem fromBase64_discString (c : Codec) (hc : ∀ j, c.parse (c.render j) = some j) (alg salt : String)
    (key : Option String) (v : J) (hk : ∀ k, key = some k → ¬(k = "_sd" ∨ k = "...")) :
    fromBase64 (c.env alg) (c.discString salt key v) =
      .ok ⟨c.discString salt key v, c.hash alg (c.discString salt key v), key, v⟩ := by
  have hd : (c.env alg).decodeDisc (c.discString salt key v) = some (discJson salt key v) := by
    simp [Codec.env, Codec.decodeDisc, Codec.discString, String.toList_ofList, B64.dec_enc, hc]
  unfold fromBase64
  rw [hd]
  cases key with
  | none => simp [discJson, Codec.env]
  | some k => simp [discJson, Codec.env, hk k rfl]

theorem discString_no_tilde (c : Codec) (salt : String) (key : Option String) (v : J) :
    '~' ∉ (c.discString salt key v).toList := by
  simp only [Codec.discString, String.toList_ofList]; exact B64.enc_no_tilde _

theorem hash_no_tilde (c : Codec) (alg s : String) : '~' ∉ (c.hash alg s).toList := by
  simp only [Codec.hash, String.toList_ofList]; exact B64.enc_no_tilde _

/-- different `(salt, name, value)` give different disclosure strings (JSON text and base64url are
both injective) -/
theorem discString_injective (c : Codec) (hc : ∀ j, c.parse (c.render j) = some j)
    (s s' : String) (k k' : Option String) (v v' : J)
    (h : c.discString s k v = c.discString s' k' v') : s = s' ∧ k = k' ∧ v = v' := by
  simp only [Codec.discString] at h
  have h1 := B64.enc_injective _ _ (String.ofList_inj.mp h)
  have h2 : discJson s k v = discJson s' k' v' := by
    have := congrArg c.parse h1; rw [hc, hc] at this; exact Option.some.inj this
  cases k <;> cases k' <;> simp_all [discJson]

/-- the disclosure made by one marking step: its digest is the digest function applied to its own
name and value, and its name is not reserved -/
theorem markIn_disc_eq (mk : Option String → J → String) (last : String) (toks : List String)
    (T T' : MJ) (d : SDisc) (h : MJ.markIn pI pU mk toks last T = some (T', d)) :
    d.digest = mk d.key d.value ∧ ∀ k, d.key = some k → ¬(k = "_sd" ∨ k = "...") := by
  refine markIn_ind (fun _ _ d => d.digest = mk d.key d.value ∧ ∀ k, d.key = some k → ¬(k = "_sd" ∨ k = "..."))
    mk ?_ ?_ ?_ ?_ last toks T T' d h
  · intro ms sd last x hr _
    refine ⟨rfl, ?_⟩
    intro k hk; simp only [Option.some.injEq] at hk; subst hk; exact hr
  · intro xs i x _; exact ⟨rfl, by intro k hk; cases hk⟩
  · intro ms sd t x x' d _ ih; exact ih
  · intro xs i x x' d _ ih; exact ih

/-- the digest function of an issuer whose `i`-th disclosure gets the salt `salt i` -/
def Codec.digestFn (c : Codec) (alg : String) (salt : Nat → String) : Nat → Option String → J → String :=
  fun i k v => c.hash alg (c.discString (salt i) k v)

/-- the disclosure strings of the issuer, in path order -/
def Codec.wireStrs (c : Codec) (salt : Nat → String) : Nat → List SDisc → List String
  | _, [] => []
  | i, d :: r => c.discString (salt i) d.key d.value :: Codec.wireStrs c salt (i+1) r

theorem markAll_wire (c : Codec) (alg : String) (salt : Nat → String) :
    (addr : List (List String × String)) → (i : Nat) → (T Tn : MJ) → (ds : List SDisc) →
    markAll (c.digestFn alg salt) i addr T = some (Tn, ds) →
    (∀ s ∈ c.wireStrs salt i ds, ∃ e ∈ ds, ∃ n, s = c.discString (salt n) e.key e.value ∧
        c.hash alg s = e.digest ∧ ∀ k, e.key = some k → ¬(k = "_sd" ∨ k = "...")) ∧
    (∀ e ∈ ds, ∃ s ∈ c.wireStrs salt i ds, c.hash alg s = e.digest) := by
  refine markAll_induct (c.digestFn alg salt) (fun i _ _ _ ds =>
    (∀ s ∈ c.wireStrs salt i ds, ∃ e ∈ ds, ∃ n, s = c.discString (salt n) e.key e.value ∧
        c.hash alg s = e.digest ∧ ∀ k, e.key = some k → ¬(k = "_sd" ∨ k = "...")) ∧
    (∀ e ∈ ds, ∃ s ∈ c.wireStrs salt i ds, c.hash alg s = e.digest)) ?_ ?_
  · intro i T
    simp [Codec.wireStrs]
  · intro i toks last r T T1 Tn d ds hm _ _ ⟨ih1, ih2⟩
    obtain ⟨hd, hk⟩ := markIn_disc_eq _ last toks T T1 d hm
    constructor
    · intro s hs
      simp only [Codec.wireStrs, List.mem_cons] at hs
      rcases hs with rfl | hs
      · exact ⟨d, List.mem_cons_self, i, rfl, hd.symm, hk⟩
      · obtain ⟨e, he, n, h1, h2, h3⟩ := ih1 s hs
        exact ⟨e, List.mem_cons_of_mem _ he, n, h1, h2, h3⟩
    · intro e he
      simp only [List.mem_cons] at he
      rcases he with rfl | he
      · exact ⟨_, by simp [Codec.wireStrs], hd.symm⟩
      · obtain ⟨s, hs, h1⟩ := ih2 e he
        exact ⟨s, by simp [Codec.wireStrs, hs], h1⟩

/-- what the end-to-end theorems assume of the disclosure strings, derived for the strings the
issuer makes (any order): each decodes to the disclosure it was made from with the digest embedded
for it, every disclosure has its string, and no string holds a `~` -/
theorem wire_hyps (c : Codec) (salt : Nat → String) (decodeClaims : String → Option J)
    (jwtDecode : String → Outcome (J × J)) (kbDecode : String → J → Outcome (J × J))
    (addr : List (List String × String)) (T Tn : MJ) (ds : List SDisc) (strs : List String)
    (h : markAll (c.digestFn "sha-256" salt) 0 addr T = some (Tn, ds))
    (hc : ∀ j, c.parse (c.render j) = some j) (hperm : strs.Perm (c.wireStrs salt 0 ds)) :
    (∀ s ∈ strs, ∃ e ∈ ds, fromBase64 ((c.rt decodeClaims jwtDecode kbDecode).env "sha-256") s =
        .ok ⟨s, e.digest, e.key, e.value⟩) ∧
    (∀ e ∈ ds, ∃ s ∈ strs, (c.rt decodeClaims jwtDecode kbDecode).hash "sha-256" s = e.digest) ∧
    (∀ s ∈ strs, '~' ∉ s.toList) := by
  obtain ⟨w1, w2⟩ := markAll_wire c "sha-256" salt addr 0 T Tn ds h
  have henv : (c.rt decodeClaims jwtDecode kbDecode).env "sha-256" = c.env "sha-256" := rfl
  refine ⟨?_, ?_, ?_⟩
  · intro s hs
    obtain ⟨e, he, n, rfl, hh, hk⟩ := w1 s (hperm.mem_iff.mp hs)
    refine ⟨e, he, ?_⟩
    rw [henv, fromBase64_discString c hc "sha-256" (salt n) e.key e.value hk, hh]
  · intro e he
    obtain ⟨s, hs, hh⟩ := w2 e he
    exact ⟨s, hperm.mem_iff.mpr hs, hh⟩
  · intro s hs
    obtain ⟨e, _, n, rfl, _, _⟩ := w1 s (hperm.mem_iff.mp hs)
    exact discString_no_tilde c _ _ _

/-- **Issuer → bytes → holder.** `holder_verify_issued` with the disclosure strings written out: the
`i`-th disclosure is the base64url of the JSON text of `[salt i, name, value]`, its digest the
base64url of SHA-256 over that string. Of the byte level only this is assumed: the JSON text parser
reads back what the printer wrote (`hc`), the digests of the strings are pairwise different (`hnd`,
collision resistance + fresh salts), the JWT library returns what was signed (`hsig`) and the JWT
holds no `~` (`hj`). That the strings hold no `~`, decode to the disclosures they were made from and
hash to the embedded digests is now proved. -/
theorem holder_verify_issued_wire (c : Codec) (salt : Nat → String)
    (decodeClaims : String → Option J) (jwtDecode : String → Outcome (J × J))
    (kbDecode : String → J → Outcome (J × J))
    (paths : List String) (addr : List (List String × String)) (ms : MMems) (Tn : MJ)
    (ds : List SDisc) (decoys : Option (List String)) (cnf : Option MJ) (jwt : String) (header : J)
    (strs : List String)
    (wf : (MJ.obj ms none).WF) (hplain : (MJ.obj ms none).digests = [])
    (hk1 : "_sd_alg" ∉ ms.keys) (hk2 : "cnf" ∉ ms.keys)
    (hp : ParsedAll paths addr)
    (h : markAll (c.digestFn "sha-256" salt) 0 addr (.obj ms none) = some (Tn, ds)) (hne : ds ≠ [])
    (hdec : ∀ l, decoys = some l → l.Nodup ∧ (∀ g ∈ l, g ∉ Tn.digests))
    (hX : ∀ X, cnf = some X → X.WF ∧ X.digests = [])
    (hsig : ∀ payload dsrc,
      encode (MJ.obj ms none).payload paths (c.digestFn "sha-256" salt) decoys (cnf.map (·.payload)) = .ok (payload, dsrc) →
      jwtDecode jwt = .ok (header, payload))
    (hc : ∀ j, c.parse (c.render j) = some j)
    (hperm : strs.Perm (c.wireStrs salt 0 ds))
    (hnd : (strs.map (c.hash "sha-256")).Nodup)
    (hj : '~' ∉ jwt.toList) :
    ∃ ps, Holder.verify (c.rt decodeClaims jwtDecode kbDecode) (assemble jwt strs) =
        .ok (header, expectedClaims ms cnf, ps) ∧
      (ps.map (fun e => (e.1, e.2.digest))).Perm (Tn.paths "") := by
  obtain ⟨a1, a2, a3⟩ := wire_hyps c salt decodeClaims jwtDecode kbDecode addr _ Tn ds strs h hc hperm
  obtain ⟨ps, h1, h2, _⟩ := holder_verify_issued (c.rt decodeClaims jwtDecode kbDecode) (c.digestFn "sha-256" salt)
    paths addr ms Tn ds decoys cnf jwt header strs wf hplain hk1 hk2 hp h hne hdec hX hsig a1 hnd a2 hj a3
  exact ⟨ps, h1, h2⟩

theorem utf8_injective (s t : String) (h : utf8 s = utf8 t) : s = t := by
  simp only [utf8, String.toUTF8_eq_toByteArray] at h
  apply String.toByteArray_inj.mp
  have h2 : s.toByteArray.data = t.toByteArray.data := Array.toList_inj.mp h
  cases hs : s.toByteArray; cases ht : t.toByteArray
  simp_all

theorem saltOf_injective (a b : List UInt8) (h : saltOf a = saltOf b) : a = b :=
  B64.enc_injective _ _ (String.ofList_inj.mp h)

/-- **digests repeat only if a salt repeats or SHA-2 collides.** If the digests drawn for two
disclosures coincide, then the two disclosures have the same salt, name and value, or two different
byte strings with the same hash have been exhibited -/
theorem digest_repeat (c : Codec) (hc : ∀ j, c.parse (c.render j) = some j) (alg : String)
    (s s' : String) (k k' : Option String) (v v' : J)
    (h : c.hash alg (c.discString s k v) = c.hash alg (c.discString s' k' v')) :
    (s = s' ∧ k = k' ∧ v = v') ∨ ∃ x y, x ≠ y ∧ c.sha alg x = c.sha alg y := by
  simp only [Codec.hash] at h
  have h1 := B64.enc_injective _ _ (String.ofList_inj.mp h)
  by_cases he : utf8 (c.discString s k v) = utf8 (c.discString s' k' v')
  · exact .inl (discString_injective c hc s s' k k' v v' (utf8_injective _ _ he))
  · exact .inr ⟨_, _, he, h1⟩

/-- a compact JWS holds no `~`: its three segments are base64url, its separators are `.` -/
theorem compact_no_tilde (c : Codec) (header payload : J) (sig : List UInt8) :
    '~' ∉ (c.compact header payload sig).toList := by
  simp only [Codec.compact, String.toList_ofList, List.mem_append, List.mem_cons, B64.enc_no_tilde,
    false_or, or_false]
  decide

/-- `get_jwt_part` finds the three segments of a compact JWS, and `decode_claims_no_verification`
reads the payload back from the middle one -/
theorem getJwtPart_compact (c : Codec) (header payload : J) (sig : List UInt8) :
    splitOn '.' (c.compact header payload sig).toList =
      [B64.enc (c.render header), B64.enc (c.render payload), B64.enc sig] ∧
    getJwtPart (c.compact header payload sig).toList .claims = .ok (B64.enc (c.render payload)) := by
  have hs : splitOn '.' (c.compact header payload sig).toList =
      [B64.enc (c.render header), B64.enc (c.render payload), B64.enc sig] := by
    simp only [Codec.compact, String.toList_ofList]
    rw [splitOn_prefix '.' _ _ (B64.enc_no_dot _), splitOn_prefix '.' _ _ (B64.enc_no_dot _),
      splitOn_of_not_mem '.' _ (B64.enc_no_dot _)]
  exact ⟨hs, by simp [getJwtPart, hs]⟩

theorem decodeClaims_compact (c : Codec) (hc : ∀ j, c.parse (c.render j) = some j) (payload : J) :
    c.decodeClaims (strOf (B64.enc (c.render payload))) = some payload := by
  simp [Codec.decodeClaims, strOf, String.toList_ofList, B64.dec_enc, hc]

end Impl
