import SdJwt.Impl.Base64
/-!
# base64url: `enc` and `dec` are inverse to each other

`dec_enc`: every byte string survives the round trip. `enc_dec`: decoding is *canonical* — a string
that decodes is the encoding of what it decodes to, so no two strings decode to the same bytes
(`dec_injective`). `enc_alphabet`: an encoding consists of alphabet characters only; in particular
it contains no `~`, no `.` and no `=` (`enc_no_tilde`, `enc_no_dot`, `enc_no_pad`). `enc_length`:
`⌈4n/3⌉` characters for `n` bytes (43 for a SHA-256 digest or a 32-byte decoy, 22 for a 16-byte salt).

Both round trips rest on one fact about a number `x < 2^24`: it is the sum of its three bytes as
well as of its four sextets (`bytes_sum`, `sextets_sum`), and either list of digits is determined by
it (`bytes_of_sum`, `sextets_of_sum`). The short groups are the same fact with a zero last byte or
sextet. In the proofs `x` is kept a variable (`clear_value`): with its defining sum unfolded every
step is many times dearer.
-/
namespace B64

/-! ## the alphabet -/

theorem char_le_iff (a b : Char) : a ≤ b ↔ a.toNat ≤ b.toNat := by
  rw [Char.le_def, UInt32.le_iff_toNat_le]; rfl

theorem val_sextet_fin : ∀ n : Fin 64, val (sextet n.val) = some n.val := by decide

theorem val_sextet (n : Nat) : val (sextet (n % 64)) = some (n % 64) :=
  val_sextet_fin ⟨n % 64, Nat.mod_lt _ (by decide)⟩

theorem of_ite_eq {p : Prop} [Decidable p] {a b c : α} (h : (if p then a else b) = c) :
    p ∧ a = c ∨ ¬p ∧ b = c := by
  split at h <;> simp_all

theorem sextet_of_val (c : Char) (v : Nat) (h : val c = some v) : v < 64 ∧ sextet v = c := by
  simp only [val, char_le_iff, Char.reduceToNat] at h
  -- `split at h` costs five times what this elimination does
  obtain ⟨_, h⟩ | ⟨-, h⟩ := of_ite_eq h
  · obtain ⟨h1, h2, h3⟩ : v < 64 ∧ v < 26 ∧ v + 65 = c.toNat := by cases h; omega
    exact ⟨h1, by rw [sextet, if_pos h2, h3, c.ofNat_toNat]⟩
  obtain ⟨_, h⟩ | ⟨-, h⟩ := of_ite_eq h
  · obtain ⟨h1, h2, h3, h4⟩ : v < 64 ∧ ¬v < 26 ∧ v < 52 ∧ v + 71 = c.toNat := by cases h; omega
    exact ⟨h1, by rw [sextet, if_neg h2, if_pos h3, h4, c.ofNat_toNat]⟩
  obtain ⟨_, h⟩ | ⟨-, h⟩ := of_ite_eq h
  · obtain ⟨h1, h2, h3, h4, h5⟩ : v < 64 ∧ ¬v < 26 ∧ ¬v < 52 ∧ v < 62 ∧ v - 4 = c.toNat := by
      cases h; omega
    exact ⟨h1, by rw [sextet, if_neg h2, if_neg h3, if_pos h4, h5, c.ofNat_toNat]⟩
  obtain ⟨rfl, h⟩ | ⟨-, h⟩ := of_ite_eq h
  · cases h; decide
  obtain ⟨rfl, h⟩ | ⟨-, h⟩ := of_ite_eq h
  · cases h; decide
  · cases h

/-! ## a 24-bit number, its three bytes and its four sextets -/

/-- the digit `x / m % n` on top of `x % m` is `x % (m * n)` -/
theorem digit_add_mod (x m n k : Nat) (h : m * n = k) : x / m % n * m + x % m = x % k := by
  rw [← h, Nat.mod_mul, Nat.add_comm, Nat.mul_comm]

theorem sextets_sum (x : Nat) (h : x < 16777216) :
    x / 262144 % 64 * 262144 + x / 4096 % 64 * 4096 + x / 64 % 64 * 64 + x % 64 = x := by
  rw [Nat.add_assoc, digit_add_mod x 64 64 4096 rfl, Nat.add_assoc, digit_add_mod x 4096 64 262144 rfl,
    digit_add_mod x 262144 64 16777216 rfl, Nat.mod_eq_of_lt h]

theorem bytes_sum (x : Nat) (h : x < 16777216) :
    x / 65536 % 256 * 65536 + x / 256 % 256 * 256 + x % 256 = x := by
  rw [Nat.add_assoc, digit_add_mod x 256 256 65536 rfl, digit_add_mod x 65536 256 16777216 rfl,
    Nat.mod_eq_of_lt h]

/-! The short groups: the same sums when the bits the decoder checks are zero. -/

theorem sextets_sum3 (x : Nat) (h : x < 16777216) (hz : x % 256 = 0) :
    x / 262144 % 64 * 262144 + x / 4096 % 64 * 4096 + x / 64 % 64 * 64 = x := by
  have h3 : x % 64 = 0 := by rw [← Nat.mod_mod_of_dvd x (by decide : 64 ∣ 256), hz]
  simpa only [h3, Nat.add_zero] using sextets_sum x h

theorem sextets_sum2 (x : Nat) (h : x < 16777216) (hz : x % 65536 = 0) :
    x / 262144 % 64 * 262144 + x / 4096 % 64 * 4096 = x := by
  have h2 := digit_add_mod x 4096 64 262144 rfl
  rw [← Nat.mod_mod_of_dvd x (by decide : 4096 ∣ 65536), hz, Nat.add_zero] at h2
  rw [h2, digit_add_mod x 262144 64 16777216 rfl, Nat.mod_eq_of_lt h]

theorem bytes_sum2 (x : Nat) (h : x < 16777216) (hz : x % 256 = 0) :
    x / 65536 % 256 * 65536 + x / 256 % 256 * 256 = x := by
  simpa only [hz, Nat.add_zero] using bytes_sum x h

theorem bytes_sum1 (x : Nat) (h : x < 16777216) (hz : x % 65536 = 0) :
    x / 65536 % 256 * 65536 = x := by
  have h1 := digit_add_mod x 65536 256 16777216 rfl
  rwa [hz, Nat.add_zero, Nat.mod_eq_of_lt h] at h1

theorem bytes_of_sum (a b c x : Nat) (ha : a < 256) (hb : b < 256) (hc : c < 256)
    (hx : x = a * 65536 + b * 256 + c) :
    x < 16777216 ∧ x / 65536 % 256 = a ∧ x / 256 % 256 = b ∧ x % 256 = c := by omega

theorem sextets_of_sum (v0 v1 v2 v3 x : Nat) (l0 : v0 < 64) (l1 : v1 < 64) (l2 : v2 < 64) (l3 : v3 < 64)
    (hx : x = v0 * 262144 + v1 * 4096 + v2 * 64 + v3) :
    x < 16777216 ∧ x / 262144 % 64 = v0 ∧ x / 4096 % 64 = v1 ∧ x / 64 % 64 = v2 ∧ x % 64 = v3 := by omega

/-! ## the round trips -/

/-- **round trip**: `URL_SAFE_NO_PAD.decode(URL_SAFE_NO_PAD.encode(bs)) = Ok(bs)` for every `bs` -/
theorem dec_enc (bs : List UInt8) : dec (enc bs) = some bs := by
  fun_induction enc bs with
  | case1 a b c r x ih =>
    clear_value (hx : x = _)
    obtain ⟨hx, ea, eb, ec⟩ := bytes_of_sum _ _ _ x a.toNat_lt b.toNat_lt c.toNat_lt hx
    rw [dec]
    simp only [val_sextet, ih, sextets_sum x hx, ea, eb, ec, UInt8.ofNat_toNat]
  | case2 a b x =>
    clear_value (hx : x = _)
    obtain ⟨hx, ea, eb, ec⟩ := bytes_of_sum _ _ 0 x a.toNat_lt b.toNat_lt (by decide) (by simpa using hx)
    rw [dec]
    simp only [val_sextet, sextets_sum3 x hx ec, ea, eb, ec, UInt8.ofNat_toNat, if_true]
  | case3 a x =>
    clear_value (hx : x = _)
    have hz : x % 65536 = 0 := hx ▸ Nat.mul_mod_left ..
    obtain ⟨hx, ea, _⟩ := bytes_of_sum _ 0 0 x a.toNat_lt (by decide) (by decide) (by simpa using hx)
    rw [dec]
    simp only [val_sextet, sextets_sum2 x hx hz, hz, ea, UInt8.ofNat_toNat, if_true]
  | case4 => rfl

theorem u8n (n : Nat) : (UInt8.ofNat n).toNat = n % 256 := UInt8.toNat_ofNat'

/-- **decoding is canonical**: whatever decodes is the encoding of its decoding (the engine rejects
padding, foreign characters, a dangling character and non-zero trailing bits) -/
theorem enc_dec (s : List Char) (bs : List UInt8) (h : dec s = some bs) : enc bs = s := by
  fun_induction dec s generalizing bs with
  | case1 c0 c1 c2 c3 r v0 v1 v2 v3 t ht h3 h2 h1 h0 x ih =>
    cases h
    clear_value (hx : x = _)
    obtain ⟨l0, rfl⟩ := sextet_of_val _ _ h0
    obtain ⟨l1, rfl⟩ := sextet_of_val _ _ h1
    obtain ⟨l2, rfl⟩ := sextet_of_val _ _ h2
    obtain ⟨l3, rfl⟩ := sextet_of_val _ _ h3
    obtain ⟨hx, q0, q1, q2, q3⟩ := sextets_of_sum v0 v1 v2 v3 x l0 l1 l2 l3 hx
    rw [enc]
    simp only [u8n, Nat.mod_mod, bytes_sum x hx, q0, q1, q2, q3, ih t ht]
  | case3 c0 c1 c2 v0 v1 v2 h2 h1 h0 x hz =>
    cases h
    clear_value (hx : x = _)
    obtain ⟨l0, rfl⟩ := sextet_of_val _ _ h0
    obtain ⟨l1, rfl⟩ := sextet_of_val _ _ h1
    obtain ⟨l2, rfl⟩ := sextet_of_val _ _ h2
    obtain ⟨hx, q0, q1, q2, _⟩ := sextets_of_sum v0 v1 v2 0 x l0 l1 l2 (by decide) (by simpa using hx)
    rw [enc]
    simp only [u8n, Nat.mod_mod, bytes_sum2 x hx hz, q0, q1, q2]
  | case6 c0 c1 v0 v1 h1 h0 x hz =>
    cases h
    clear_value (hx : x = _)
    obtain ⟨l0, rfl⟩ := sextet_of_val _ _ h0
    obtain ⟨l1, rfl⟩ := sextet_of_val _ _ h1
    obtain ⟨hx, q0, q1, _⟩ := sextets_of_sum v0 v1 0 0 x l0 l1 (by decide) (by decide) (by simpa using hx)
    rw [enc]
    simp only [u8n, Nat.mod_mod, bytes_sum1 x hx hz, q0, q1]
  | case10 => cases h; rfl
  | _ => cases h

theorem enc_injective (a b : List UInt8) (h : enc a = enc b) : a = b := by
  have := dec_enc a; rw [h, dec_enc b] at this; exact (Option.some.inj this).symm

theorem dec_injective (s t : List Char) (bs : List UInt8) (hs : dec s = some bs) (ht : dec t = some bs) :
    s = t := by rw [← enc_dec s bs hs, ← enc_dec t bs ht]

/-! ## what an encoding looks like -/

/-- an encoding consists of alphabet characters -/
theorem enc_alphabet (bs : List UInt8) : ∀ c ∈ enc bs, ∃ v, val c = some v := by
  fun_induction enc bs with
  | case1 a b c r x ih => clear_value x; simpa [val_sextet] using ih
  | case2 a b x => clear_value x; simp [val_sextet]
  | case3 a x => clear_value x; simp [val_sextet]
  | case4 => simp

/-- only alphabet characters decode -/
theorem dec_alphabet (s : List Char) (bs : List UInt8) (h : dec s = some bs) :
    ∀ c ∈ s, ∃ v, val c = some v := enc_dec s bs h ▸ enc_alphabet bs

theorem enc_not_mem (bs : List UInt8) (c : Char) (h : val c = none) : c ∉ enc bs := by
  intro hm; obtain ⟨v, hv⟩ := enc_alphabet bs c hm
  rw [h] at hv; cases hv

theorem enc_no_tilde (bs : List UInt8) : '~' ∉ enc bs := enc_not_mem bs _ (by decide)

theorem enc_no_dot (bs : List UInt8) : '.' ∉ enc bs := enc_not_mem bs _ (by decide)

theorem enc_no_pad (bs : List UInt8) : '=' ∉ enc bs := enc_not_mem bs _ (by decide)

/-- `⌈4n/3⌉` characters for `n` bytes -/
theorem enc_length (bs : List UInt8) : (enc bs).length = (4 * bs.length + 2) / 3 := by
  fun_induction enc bs with
  | case1 a b c r x ih => simp only [List.length_cons, ih]; omega
  | case2 => simp
  | case3 => simp
  | case4 => rfl

/-- strings of a length that is 1 modulo 4 never decode -/
theorem dec_length (s : List Char) (bs : List UInt8) (h : dec s = some bs) : s.length % 4 ≠ 1 := by
  rw [← enc_dec s bs h, enc_length]; omega

/-- the strings the standard alphabet or padding would give are rejected outright -/
theorem dec_rejects_foreign (s : List Char) (c : Char) (hc : c ∈ s) (hv : val c = none) : dec s = none := by
  cases h : dec s with
  | none => rfl
  | some bs => obtain ⟨v, hv'⟩ := dec_alphabet s bs h c hc; rw [hv] at hv'; cases hv'

end B64
