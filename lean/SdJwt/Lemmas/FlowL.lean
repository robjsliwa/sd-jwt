import SdJwt.Impl.Flows
/-!
# The decision ladders of `verify_raw` / `verify`, once

`Holder::verify_raw`, `Verifier::verify_raw` and the two `verify` are chains of early returns.
Each gets one characterisation of its accepting runs; everything that is said about the flows
(soundness, key binding, the end-to-end theorems) goes through these.
-/
open Assoc
namespace Impl

/-- the accepting runs of `Holder::verify_raw` -/
theorem Holder.verifyRaw_ok_iff (rt : Rt) (tok : String) (h c : J) (ds : List String) :
    Holder.verifyRaw rt tok = .ok (h, c, ds) ↔
      ∃ parts a alg, sdJwtParts tok.toList = .ok parts ∧ parts.kb = none ∧
        rt.jwtDecode (strOf parts.jwt) = .ok (h, c) ∧ (jidx c "_sd_alg").asStr = some a ∧
        parseHashAlg a = .ok alg ∧ ds = parts.disclosures.map strOf := by
  unfold Holder.verifyRaw
  constructor
  · intro hv
    split at hv <;> try cases hv
    rename_i parts hp
    split at hv
    · cases hv
    · rename_i hk
      split at hv <;> try cases hv
      rename_i h' c' hj
      split at hv <;> try cases hv
      rename_i a ha
      split at hv <;> cases hv
      rename_i alg hpa
      exact ⟨parts, a, alg, hp, by simpa using hk, hj, ha, hpa, rfl⟩
  · rintro ⟨parts, a, alg, hp, hk, hj, ha, hpa, rfl⟩
    simp [hp, hk, hj, ha, hpa]

/-- the key-binding check accepts iff the bound key is an RSA JWK with string `n`, `e`, the JWT
library accepts the KB-JWT under that key and the verifier's policy, and it is typed `kb+jwt` -/
theorem verifyKb_ok_iff (rt : Rt) (kb : String) (cnf : J) (kh kc : J) :
    verifyKb rt kb cnf = .ok (kh, kc) ↔
      (jidx cnf "kty").asStr = some "RSA" ∧ (jidx cnf "e").asStr ≠ none ∧
      (jidx cnf "n").asStr ≠ none ∧ rt.kbDecode kb cnf = .ok (kh, kc) ∧
      (jidx kh "typ").asStr = some "kb+jwt" := by
  by_cases h1 : (jidx cnf "kty").asStr = some "RSA"
  case neg => simp [verifyKb, h1]
  cases h2 : (jidx cnf "e").asStr
  case none => simp [verifyKb, h1, h2]
  cases h3 : (jidx cnf "n").asStr
  case none => simp [verifyKb, h1, h2, h3]
  cases hd : rt.kbDecode kb cnf with
  | panic => simp [verifyKb, h1, h2, h3, hd]
  | err e => simp [verifyKb, h1, h2, h3, hd]
  | ok r =>
    obtain ⟨a, b⟩ := r
    by_cases ht : (jidx a "typ").asStr = some "kb+jwt"
    · simp [verifyKb, h1, h2, h3, hd, ht]
      rintro rfl _; exact ht
    · simp [verifyKb, h1, h2, h3, hd, ht]
      rintro rfl _; exact ht

/-- a value with a string member is not `null` -/
theorem isNullJ_of_jidx {j : J} {k s : String} (h : (jidx j k).asStr = some s) : isNullJ j = false := by
  cases j <;> first | rfl | (simp [jidx, J.asStr] at h)

/-- what `Verifier::verify_raw` demands of the end of the presentation: no key-binding JWT on an
unbound token; on a bound one a policy, a key-binding JWT that `verify_kb` accepts, and its
`sd_hash` the hash of the presentation up to its last `~` -/
def kbAccepted (rt : Rt) (tok : String) (policy : Bool) (parts : Parts) (claims : J) (alg : String) : Prop :=
  (isNullJ (jidx claims "cnf") = true ∧ parts.kb = none) ∨
  (isNullJ (jidx claims "cnf") = false ∧ ∃ k, parts.kb = some k ∧ policy = true ∧
    ∃ kh kc, verifyKb rt (strOf k) (jidx claims "cnf") = .ok (kh, kc) ∧
      (jidx kc "sd_hash").asStr = some (rt.hash alg (strOf (dropKb tok.toList))))

/-- the accepting runs of `Verifier::verify_raw` -/
theorem Verifier.verifyRaw_ok_iff (rt : Rt) (tok : String) (policy : Bool) (h c : J) (ds : List String) :
    Verifier.verifyRaw rt tok policy = .ok (h, c, ds) ↔
      ∃ parts a alg, sdJwtParts tok.toList = .ok parts ∧
        rt.jwtDecode (strOf parts.jwt) = .ok (h, c) ∧ (jidx c "_sd_alg").asStr = some a ∧
        parseHashAlg a = .ok alg ∧ ds = parts.disclosures.map strOf ∧
        kbAccepted rt tok policy parts c alg := by
  unfold Verifier.verifyRaw kbAccepted
  constructor
  · intro hv
    split at hv <;> try cases hv
    rename_i parts hp
    split at hv <;> try cases hv
    rename_i h' c' hj
    simp only at hv
    split at hv
    · cases hv
    · rename_i h1
      split at hv
      · cases hv
      · rename_i h2
        split at hv <;> try cases hv
        rename_i a ha
        split at hv <;> try cases hv
        rename_i alg hpa
        split at hv
        · rename_i hk
          cases hv
          refine ⟨parts, a, alg, hp, hj, ha, hpa, ?_⟩
          exact ⟨rfl, .inl ⟨by simpa [hk] using h2, hk⟩⟩
        · rename_i k hk
          split at hv
          · cases hv
          · rename_i hpol
            split at hv <;> try cases hv
            rename_i kh kc hkb
            split at hv <;> try cases hv
            rename_i sh hsh
            split at hv <;> cases hv
            rename_i hne
            refine ⟨parts, a, alg, hp, hj, ha, hpa, ?_⟩
            refine ⟨rfl, .inr ⟨by simpa [hk] using h1, k, hk, by simpa using hpol, kh, kc, hkb, ?_⟩⟩
            rw [hsh, Option.some.injEq]
            exact (Decidable.not_not.mp hne).symm
  · rintro ⟨parts, a, alg, hp, hj, ha, hpa, rfl, hkb⟩
    rcases hkb with ⟨hn, hk⟩ | ⟨hn, k, hk, rfl, kh, kc, hkb, hsh⟩
    · simp [hp, hj, ha, hpa, hn, hk]
    · simp [hp, hj, ha, hpa, hn, hk, hkb, hsh]

/-- `verify` after an accepting `verify_raw`: the declared algorithm is parsed a second time,
the disclosures are put back, the bookkeeping is stripped -/
theorem Holder.verify_ok_iff (rt : Rt) (tok : String) (h c : J) (ps : List PathEntry) :
    Holder.verify rt tok = .ok (h, c, ps) ↔
      ∃ p ds alg c0, Holder.verifyRaw rt tok = .ok (h, p, ds) ∧
        parseHashAlg ((jidx p "_sd_alg").asStr.getD "") = .ok alg ∧
        restoreAll (rt.env alg) p ds = .ok (c0, ps) ∧ c = removeDigests c0 := by
  unfold Holder.verify
  constructor
  · intro hv
    split at hv <;> try cases hv
    rename_i h' p ds hr
    split at hv <;> try cases hv
    rename_i alg hpa
    split at hv <;> cases hv
    rename_i c0 hres
    exact ⟨p, ds, alg, c0, hr, hpa, hres, rfl⟩
  · rintro ⟨p, ds, alg, c0, hr, hpa, hres, rfl⟩
    simp [hr, hpa, hres]

theorem Verifier.verify_ok_iff (rt : Rt) (tok : String) (policy : Bool) (h c : J) :
    Verifier.verify rt tok policy = .ok (h, c) ↔
      ∃ p ds alg c0 ps, Verifier.verifyRaw rt tok policy = .ok (h, p, ds) ∧
        parseHashAlg ((jidx p "_sd_alg").asStr.getD "") = .ok alg ∧
        restoreAll (rt.env alg) p ds = .ok (c0, ps) ∧ c = removeDigests c0 := by
  unfold Verifier.verify
  constructor
  · intro hv
    split at hv <;> try cases hv
    rename_i h' p ds hr
    split at hv <;> try cases hv
    rename_i alg hpa
    split at hv <;> cases hv
    rename_i c0 ps' hres
    exact ⟨p, ds, alg, c0, ps', hr, hpa, hres, rfl⟩
  · rintro ⟨p, ds, alg, c0, ps, hr, hpa, hres, rfl⟩
    simp [hr, hpa, hres]

end Impl
