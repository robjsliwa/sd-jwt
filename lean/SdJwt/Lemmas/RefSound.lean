import SdJwt.Spec.RefVerify
import SdJwt.Lemmas.View
import SdJwt.Lemmas.MarkInv
import SdJwt.Lemmas.Ancestry
import SdJwt.Lemmas.Keys
/-!
# The specification's verification algorithm computes the projection (T-ref)

`Ref.process` — written from the text of the draft, sharing nothing with `Impl/` — applied to
the payload of a conformant tree with a table of disclosures returns the tree's claims with
exactly the marked nodes present whose own and enclosing disclosures are in the table.
-/
open Assoc Spec Impl
namespace Ref

/-- the JSON array a disclosure string decodes to -/
def discJ (salt : J) (e : SDisc) : J :=
  match e.key with
  | some k => .arr [salt, .str k, e.value]
  | none => .arr [salt, e.value]

/-- the selection a table stands for -/
def sel (tbl : List (String × J)) : String → Bool := fun g => (lookup tbl g).isSome

/-- table entries under digests of marked nodes are those nodes' disclosures; no entry under a
digest that marks nothing -/
structure TblFor (T : MJ) (tbl : List (String × J)) : Prop where
  own : ∀ e ∈ T.discs, ∀ j, lookup tbl e.digest = some j → ∃ salt, j = discJ salt e
  stale : ∀ g ∈ T.deepStale, lookup tbl g = none

mutual
/-- nesting of replaced values that `process` has to follow -/
def _root_.MJ.need (S : String → Bool) : MJ → Nat
  | .leaf _ => 1
  | .arr xs => 1 + xs.need S
  | .obj ms _ => 1 + ms.need S
def _root_.MElems.need (S : String → Bool) : MElems → Nat
  | .nil => 0
  | .clear x r => max (x.need S) (r.need S)
  | .marked dg x r => max (if S dg then x.need S else 0) (r.need S)
  | .decoy _ r => r.need S
def _root_.MMems.need (S : String → Bool) : MMems → Nat
  | .nil => 0
  | .clear _ x r => max (x.need S) (r.need S)
  | .marked _ dg x r => max (if S dg then x.need S else 0) (r.need S)
end

/-- (name, digest, subtree) of the marked members of one object -/
def _root_.MMems.markedTriples : MMems → List (String × String × MJ)
  | .nil => []
  | .clear _ _ r => r.markedTriples
  | .marked k dg x r => (k, dg, x) :: r.markedTriples

theorem _root_.MMems.triples_keys : (ms : MMems) → (ms.markedTriples.map (·.1)).Sublist ms.keys
  | .nil => .slnil
  | .clear _ _ r => (MMems.triples_keys r).cons _
  | .marked _ _ _ r => (MMems.triples_keys r).cons_cons _

theorem _root_.MMems.triples_marks : (ms : MMems) → ms.markedTriples.map (·.2.1) = ms.marks
  | .nil => rfl
  | .clear _ _ r => MMems.triples_marks r
  | .marked _ dg _ r => congrArg (dg :: ·) (MMems.triples_marks r)

theorem _root_.MMems.triples_discs : (ms : MMems) →
    (ms.markedTriples.map fun t => (⟨t.2.1, some t.1, t.2.2.payload⟩ : SDisc)).Sublist ms.discs
  | .nil => .slnil
  | .clear _ _ r => (MMems.triples_discs r).trans (List.sublist_append_right _ _)
  | .marked _ _ _ r => ((MMems.triples_discs r).trans (List.sublist_append_right _ _)).cons_cons _

theorem triple_gt {k0 k dg : String} {x : MJ} {ms : MMems} (hg : ms.keysGt k0) (h : (k, dg, x) ∈ ms.markedTriples) :
    k0 < k :=
  MMems.keysGt_iff.mp hg k ((MMems.triples_keys ms).subset (List.mem_map_of_mem h))

theorem triple_mark {k dg : String} {x : MJ} {ms : MMems} (h : (k, dg, x) ∈ ms.markedTriples) : dg ∈ ms.marks :=
  MMems.triples_marks ms ▸ List.mem_map_of_mem (f := (·.2.1)) h

mutual
/-- the names in the disclosures of a conformant tree are not reserved -/
theorem MJ.discs_key_ok : (T : MJ) → T.WF → ∀ e ∈ T.discs, ∀ k, e.key = some k → k ≠ "_sd" ∧ k ≠ "..."
  | .leaf _, _, _, h => nomatch h
  | .arr xs, wf, e, h => MElems.discs_key_ok xs wf e h
  | .obj ms _, wf, e, h => MMems.discs_key_ok ms wf.1 e h
theorem MElems.discs_key_ok : (xs : MElems) → xs.WF → ∀ e ∈ xs.discs, ∀ k, e.key = some k → k ≠ "_sd" ∧ k ≠ "..."
  | .nil, _, _, h => nomatch h
  | .clear x r, wf, e, h => (List.mem_append.mp h).elim (MJ.discs_key_ok x wf.1 e) (MElems.discs_key_ok r wf.2 e)
  | .marked dg x r, wf, e, h => by
    rcases List.mem_cons.mp h with rfl | h
    · exact fun _ hk => nomatch hk
    · exact (List.mem_append.mp h).elim (MJ.discs_key_ok x wf.1 e) (MElems.discs_key_ok r wf.2 e)
  | .decoy _ r, wf, e, h => MElems.discs_key_ok r wf e h
theorem MMems.discs_key_ok : (ms : MMems) → ms.WF → ∀ e ∈ ms.discs, ∀ k, e.key = some k → k ≠ "_sd" ∧ k ≠ "..."
  | .nil, _, _, h => nomatch h
  | .clear _ x r, wf, e, h =>
    (List.mem_append.mp h).elim (MJ.discs_key_ok x wf.2.2.1 e) (MMems.discs_key_ok r wf.2.2.2.2 e)
  | .marked k' dg x r, wf, e, h => by
    rcases List.mem_cons.mp h with rfl | h
    · rintro k ⟨⟩
      exact ⟨wf.1, wf.2.1⟩
    · exact (List.mem_append.mp h).elim (MJ.discs_key_ok x wf.2.2.1 e) (MMems.discs_key_ok r wf.2.2.2.2 e)
end

/-- members with the marked ones included iff their digest is in `A` and selected -/
def _root_.MMems.projectOn (A : List String) (S : String → Bool) : MMems → List (String × J)
  | .nil => []
  | .clear k x r => (k, x.project S) :: r.projectOn A S
  | .marked k dg x r => if dg ∈ A ∧ S dg = true then (k, x.project S) :: r.projectOn A S else r.projectOn A S

/-- digests met inside the members that `projectOn A` includes -/
def _root_.MMems.digestsOn (A : List String) (S : String → Bool) : MMems → List String
  | .nil => []
  | .clear _ x r => x.digests ++ r.digestsOn A S
  | .marked _ dg x r => (if dg ∈ A ∧ S dg = true then x.digests else []) ++ r.digestsOn A S

attribute [local simp] MMems.projectOn MMems.digestsOn

theorem projectOn_all (S : String → Bool) (A : List String) : (ms : MMems) → ms.marks ⊆ A →
    ms.projectOn A S = ms.project S
  | .nil, _ => rfl
  | .clear _ _ r, h => by simp [projectOn_all S A r h]
  | .marked _ _ _ r, h => by simp [h List.mem_cons_self, projectOn_all S A r (List.subset_of_cons_subset h)]

theorem projectOn_keepsOf (A : List String) (S : String → Bool) : (ms : MMems) → KeepsOf (ms.projectOn A S) ms
  | .nil => .slnil
  | .clear _ _ r => (projectOn_keepsOf A S r).cons_cons _
  | .marked _ dg _ r => by
    simp only [MMems.projectOn]
    split
    · exact (projectOn_keepsOf A S r).cons_cons _
    · exact (projectOn_keepsOf A S r).cons _

theorem sorted_projectOn (A : List String) (S : String → Bool) : (ms : MMems) → ms.WF → Sorted (ms.projectOn A S) :=
  fun ms wf => (projectOn_keepsOf A S ms).sorted wf

/-- a digest that marks no selected member does not matter -/
theorem projectOn_cons_other (A : List String) (S : String → Bool) (g : String) :
    (ms : MMems) → (g ∈ ms.marks → S g = false) → ms.projectOn (g :: A) S = ms.projectOn A S
  | .nil, _ => rfl
  | .clear _ _ r, h => by simp [projectOn_cons_other A S g r h]
  | .marked _ dg _ r, h => by
    have ih := projectOn_cons_other A S g r fun hh => h (List.mem_cons_of_mem _ hh)
    by_cases e : dg = g
    · simp [e, h (e ▸ List.mem_cons_self), ih]
    · simp [e, ih]

theorem digestsOn_cons_other (A : List String) (S : String → Bool) (g : String) :
    (ms : MMems) → (g ∈ ms.marks → S g = false) → ms.digestsOn (g :: A) S = ms.digestsOn A S
  | .nil, _ => rfl
  | .clear _ _ r, h => by simp [digestsOn_cons_other A S g r h]
  | .marked _ dg _ r, h => by
    have ih := digestsOn_cons_other A S g r fun hh => h (List.mem_cons_of_mem _ hh)
    by_cases e : dg = g
    · simp [e, h (e ▸ List.mem_cons_self), ih]
    · simp [e, ih]

/-- inserting the disclosed member marked `dg` -/
theorem projectOn_cons_mark (A : List String) (S : String → Bool) (k dg : String) (x : MJ) :
    (ms : MMems) → ms.WF → ms.marks.Nodup → (k, dg, x) ∈ ms.markedTriples → dg ∉ A → S dg = true →
    ains k (x.project S) (ms.projectOn A S) = ms.projectOn (dg :: A) S
  | .nil, _, _, h, _, _ => nomatch h
  | .clear _ _ r, ⟨_, _, _, hgt, wr⟩, nd, h, hA, hS => by
    simp [ains_cons_lt _ _ _ (triple_gt hgt h), projectOn_cons_mark A S k dg x r wr nd h hA hS]
  | .marked _ dg' _ r, ⟨_, _, _, hgt, wr⟩, nd, h, hA, hS => by
    obtain ⟨hdg, ndr⟩ := List.nodup_cons.mp nd
    rcases List.mem_cons.mp h with e | h
    · -- this member: no other has its digest, and all that follow have larger names
      cases e
      simp [hA, hS, projectOn_cons_other A S dg r (absurd · hdg), ains_of_allGt ((projectOn_keepsOf A S r).allGt hgt)]
    · have hne : dg' ≠ dg := fun e => hdg (e ▸ triple_mark h)
      have ih := projectOn_cons_mark A S k dg x r wr ndr h hA hS
      by_cases c : dg' ∈ A ∧ S dg' = true
      · simp [c, hne, ains_cons_lt _ _ _ (triple_gt hgt h), ih]
      · simp [c, hne, ih]

theorem aget_projectOn_none (A : List String) (S : String → Bool) {k dg : String} {x : MJ} :
    (ms : MMems) → ms.WF → (k, dg, x) ∈ ms.markedTriples → dg ∉ A → aget k (ms.projectOn A S) = none
  | .nil, _, h, _ => nomatch h
  | .clear _ _ r, ⟨_, _, _, hgt, wr⟩, h, hA => by
    simp [aget, (slt_ne (triple_gt hgt h)).symm, aget_projectOn_none A S r wr h hA]
  | .marked _ dg' _ r, ⟨_, _, _, hgt, wr⟩, h, hA => by
    rcases List.mem_cons.mp h with e | h
    · cases e
      simp [hA, aget_of_allGt ((projectOn_keepsOf A S r).allGt hgt)]
    · have ih := aget_projectOn_none A S r wr h hA
      by_cases c : dg' ∈ A ∧ S dg' = true
      · simp [c, aget, (slt_ne (triple_gt hgt h)).symm, ih]
      · simp [c, ih]

theorem digestsOn_sublist (A : List String) (S : String → Bool) : (ms : MMems) →
    (ms.digestsOn A S).Sublist ms.digests
  | .nil => .slnil
  | .clear _ _ r => (List.Sublist.refl _).append (digestsOn_sublist A S r)
  | .marked _ dg x r => by
    have : (if dg ∈ A ∧ S dg = true then x.digests else []).Sublist x.digests := by split <;> simp
    exact this.append (digestsOn_sublist A S r)

/-- including the member marked `dg` adds the digests inside it, and no others -/
theorem digestsOn_cons_mark (A : List String) (S : String → Bool) {k dg : String} {x : MJ} :
    (ms : MMems) → ms.marks.Nodup → (k, dg, x) ∈ ms.markedTriples → dg ∉ A → S dg = true →
    (ms.digestsOn (dg :: A) S).Perm (x.digests ++ ms.digestsOn A S)
  | .nil, _, h, _, _ => nomatch h
  | .clear _ x' r, nd, h, hA, hS =>
    ((digestsOn_cons_mark A S r nd h hA hS).append_left x'.digests).trans (List.perm_append_comm_assoc ..)
  | .marked _ dg' x' r, nd, h, hA, hS => by
    obtain ⟨hdg, ndr⟩ := List.nodup_cons.mp nd
    rcases List.mem_cons.mp h with e | h
    · cases e
      simp [hA, hS, digestsOn_cons_other A S dg r (absurd · hdg)]
    · have hne : dg' ≠ dg := fun e => hdg (e ▸ triple_mark h)
      simpa [hne] using ((digestsOn_cons_mark A S r ndr h hA hS).append_left
        (if dg' ∈ A ∧ S dg' = true then x'.digests else [])).trans (List.perm_append_comm_assoc ..)

/-! ### `process` on each shape of input -/

theorem process_scalar (tbl : List (String × J)) (f : Nat) {j : J} (h : j.scalar) (st : St) :
    process tbl (f+1) j st = .ok (j, st) := by
  cases j <;> first | exact False.elim h | simp [process]

theorem seeDigest_ok (st : St) (g : String) (h : g ∉ st.seen) :
    seeDigest st g = .ok { st with seen := g :: st.seen } := by
  simp [seeDigest, h]

/-- a shown node is not read as a placeholder -/
theorem hview_obj_dots (S : String → Bool) : (x : MJ) → x.WF → ∀ ms', x.hview S = .obj ms' → aget "..." ms' = none
  | .leaf _, wf, _, h => by
    simp only [MJ.hview] at h
    subst h
    exact wf.elim
  | .arr _, _, _, h => by simp at h
  | .obj ms sd, wf, _, h => by
    cases h
    exact (aget_dots_withSd sd _).trans ((hview_keepsOf S ms).aget_dots wf.1)

theorem elems_clear {tbl : List (String × J)} {fuel : Nat} {j x' : J} {r r' : List J} {st st1 st2 : St}
    (h : ∀ ms, j = .obj ms → aget "..." ms = none) (h1 : process tbl fuel j st = .ok (x', st1))
    (h2 : process.elems tbl fuel r st1 = .ok (r', st2)) :
    process.elems tbl fuel (j :: r) st = .ok (x' :: r', st2) := by
  cases j <;> simp [process.elems, h, h1, h2]

theorem elems_placeholder (tbl : List (String × J)) (fuel : Nat) (dg : String) (r : List J) (st : St) :
    process.elems tbl fuel (placeholder dg :: r) st =
      match seeDigest st dg with
      | .error e => .error e
      | .ok st1 =>
        match lookup tbl dg with
        | none => process.elems tbl fuel r st1
        | some (.arr [_, v]) =>
          match process tbl fuel v { st1 with used := dg :: st1.used } with
          | .error e => .error e
          | .ok (v', st2) =>
            match process.elems tbl fuel r st2 with
            | .error e => .error e
            | .ok (r', st3) => .ok (v' :: r', st3)
        | some _ => .error .wrongPlace := by
  rw [placeholder, process.elems.eq_2]
  simp [aget]
  rfl

/-- `members` does not look at `_sd` and keeps all names: it commutes with inserting `_sd` -/
theorem members_ains_sd (tbl : List (String × J)) (fuel : Nat) (v : J) :
    (l l' : List (String × J)) → (st st' : St) → (∀ p ∈ l, p.1 ≠ "_sd") →
    process.members tbl fuel l st = .ok (l', st') →
    process.members tbl fuel (ains "_sd" v l) st = .ok (ains "_sd" v l', st')
  | [], l', st, st', _, h => by
    rw [process.members] at h
    cases h
    simp [ains, process.members]
  | (k, w) :: r, l', st, st', hk, h => by
    have hne : k ≠ "_sd" := hk (k, w) List.mem_cons_self
    simp only [process.members, hne, if_false] at h
    split at h
    · cases h
    · rename_i w' st1 hp
      split at h
      · cases h
      · rename_i r' _ hm
        cases h
        have ih := members_ains_sd tbl fuel v r r' st1 st' (fun p hp' => hk p (List.mem_cons_of_mem _ hp')) hm
        by_cases hlt : "_sd" < k
        · simp [ains, hlt, process.members, hne, hp, hm]
        · simp [ains, hlt, Ne.symm hne, process.members, hne, hp, ih]

/-! ### the walk -/

/-- the state only grows by digests from `D` -/
def Grows (st st' : St) (D : List String) : Prop := ∀ g ∈ st'.seen, g ∈ st.seen ∨ g ∈ D

/-- `run`, started in any state that has seen none of `D`, returns `out`, having seen at most
`D` in addition: what the walk establishes at every node -/
def Runs {α : Type} (run : St → R α) (out : α) (D : List String) : Prop :=
  ∀ st : St, (∀ g ∈ D, g ∉ st.seen) → ∃ st', run st = .ok (out, st') ∧ Grows st st' D

theorem Runs.pure {α : Type} {run : St → R α} {out : α} (h : ∀ st, run st = .ok (out, st)) :
    Runs run out [] :=
  fun st _ => ⟨st, h st, fun _ hg => .inl hg⟩

/-- `rule` turns a successful run of `run` into one of `run'` -/
theorem Runs.imp {α β : Type} {run : St → R α} {run' : St → R β} {a : α} {b : β} {D D' : List String}
    (h : Runs run a D) (hs : D ⊆ D')
    (rule : ∀ st st', (∀ g ∈ D', g ∉ st.seen) → run st = .ok (a, st') → run' st = .ok (b, st')) :
    Runs run' b D' := by
  intro st hf
  obtain ⟨st', e, gr⟩ := h st (fun g hg => hf g (hs hg))
  exact ⟨st', rule st st' hf e, fun g hg => (gr g hg).imp id (@hs g)⟩

/-- one run after the other, on disjoint sets of digests -/
theorem Runs.seq {α β γ : Type} {r1 : St → R α} {r2 : St → R β} {r : St → R γ} {a : α} {b : β} {c : γ}
    {D1 D2 : List String} (h1 : Runs r1 a D1) (h2 : Runs r2 b D2) (hd : ∀ a ∈ D1, ∀ b ∈ D2, a ≠ b)
    (rule : ∀ st st1 st2, (∀ g ∈ D1 ++ D2, g ∉ st.seen) → r1 st = .ok (a, st1) → r2 st1 = .ok (b, st2) →
      r st = .ok (c, st2)) :
    Runs r c (D1 ++ D2) := by
  intro st hf
  obtain ⟨st1, e1, g1⟩ := h1 st (fun g hg => hf g (List.mem_append_left _ hg))
  obtain ⟨st2, e2, g2⟩ := h2 st1 (fun g hg hs => (g1 g hs).elim (hf g (List.mem_append_right _ hg))
    (fun h => hd g h g hg rfl))
  refine ⟨st2, rule st st1 st2 hf e1 e2, fun g hg => ?_⟩
  rcases g2 g hg with h | h
  · exact (g1 g h).imp id (List.mem_append_left _)
  · exact .inr (List.mem_append_right _ h)

/-- a run that starts by recording the unseen digest `g` -/
theorem Runs.see {α : Type} {run : St → R α} {a : α} {D : List String} {g : String} (h : Runs run a D)
    (hg : g ∉ D) (u : St → List String) : Runs (fun st => run ⟨g :: st.seen, u st⟩) a (g :: D) := by
  intro st hf
  obtain ⟨st', e, gr⟩ := h ⟨g :: st.seen, u st⟩ (fun g' hg' hs => by
    rcases List.mem_cons.mp hs with rfl | hs
    · exact hg hg'
    · exact hf g' (List.mem_cons_of_mem _ hg') hs)
  refine ⟨st', e, fun g' hg' => ?_⟩
  rcases gr g' hg' with h | h
  · exact (List.mem_cons.mp h).elim (fun e => .inr (e ▸ List.mem_cons_self)) .inl
  · exact .inr (List.mem_cons_of_mem _ h)

/-- the `_sd` phase of one object -/
theorem sdList_spec (tbl : List (String × J)) (f : Nat) (ms : MMems) (wf : ms.WF) (ndm : ms.marks.Nodup)
    (ndd : ms.digests.Nodup) (st0 : St)
    (IH : ∀ k dg x, (k, dg, x) ∈ ms.markedTriples → sel tbl dg = true → ∀ st : St,
      (∀ g ∈ x.digests, g ∉ st.seen) →
      ∃ st', process tbl f x.payload st = .ok (x.project (sel tbl), st') ∧ Grows st st' x.digests)
    (htbl : ∀ k dg x, (k, dg, x) ∈ ms.markedTriples → ∀ j, lookup tbl dg = some j →
      ∃ salt, j = .arr [salt, .str k, x.payload])
    (hbase : ∀ g ∈ ms.digests, g ∉ st0.seen) :
    (rest pre : List String) → (st : St) → (pre ++ rest).Nodup →
    (∀ g ∈ pre ++ rest, g ∉ ms.digests) → (∀ g ∈ rest, g ∉ st0.seen) →
    (∀ g ∈ rest, g ∉ ms.marks → lookup tbl g = none) →
    (∀ g ∈ st.seen, g ∈ st0.seen ∨ g ∈ pre ∨ g ∈ ms.digestsOn pre (sel tbl)) →
    ∃ st', process.sdList tbl f (rest.map .str) (ms.projectOn pre (sel tbl)) st =
        .ok (ms.projectOn (rest.reverse ++ pre) (sel tbl), st') ∧
      (∀ g ∈ st'.seen, g ∈ st0.seen ∨ g ∈ pre ++ rest ∨ g ∈ ms.digests)
  | [], pre, st, _, _, _, _, hseen =>
    ⟨st, by simp [process.sdList], fun g hg =>
      (hseen g hg).imp id (Or.imp (List.mem_append_left _) fun h => (digestsOn_sublist pre _ ms).subset h)⟩
  | g :: rest, pre, st, hnd, hsdm, hr0, hstale, hseen => by
    have hgpre : g ∉ pre := fun hh => (List.nodup_append.mp hnd).2.2 g hh g List.mem_cons_self rfl
    have hgms : g ∉ ms.digests := hsdm g (List.mem_append_right _ List.mem_cons_self)
    have hgseen : g ∉ st.seen := fun hh => by
      rcases hseen g hh with h | h | h
      · exact hr0 g List.mem_cons_self h
      · exact hgpre h
      · exact hgms ((digestsOn_sublist pre _ ms).subset h)
    -- one step: `g` is recorded and its member, if there is a disclosure, processed and inserted
    obtain ⟨st1, hstep, hseen1⟩ : ∃ st1,
        process.sdList tbl f ((g :: rest).map .str) (ms.projectOn pre (sel tbl)) st =
          process.sdList tbl f (rest.map .str) (ms.projectOn (g :: pre) (sel tbl)) st1 ∧
        ∀ h ∈ st1.seen, h ∈ st0.seen ∨ h ∈ g :: pre ∨ h ∈ ms.digestsOn (g :: pre) (sel tbl) := by
      have hold : (∀ h ∈ ms.digestsOn pre (sel tbl), h ∈ ms.digestsOn (g :: pre) (sel tbl)) → ∀ h ∈ g :: st.seen,
          h ∈ st0.seen ∨ h ∈ g :: pre ∨ h ∈ ms.digestsOn (g :: pre) (sel tbl) := by
        intro inc h hh
        rcases List.mem_cons.mp hh with rfl | hh
        · exact .inr (.inl List.mem_cons_self)
        · exact (hseen h hh).imp id (Or.imp (List.mem_cons_of_mem _) (inc h))
      simp only [List.map_cons, process.sdList, seeDigest_ok st g hgseen]
      cases hl : lookup tbl g with
      | none =>
        have hsel : g ∈ ms.marks → sel tbl g = false := fun _ => by simp [sel, hl]
        exact ⟨_, by rw [projectOn_cons_other pre _ g ms hsel],
          hold (digestsOn_cons_other pre _ g ms hsel ▸ fun _ => id)⟩
      | some j =>
        have hmark : g ∈ ms.marks := Decidable.byContradiction fun hnm =>
          nomatch (hstale g List.mem_cons_self hnm).symm.trans hl
        obtain ⟨⟨k, dg, x⟩, htr, rfl⟩ := List.mem_map.mp (MMems.triples_marks ms ▸ hmark)
        obtain ⟨salt, rfl⟩ := htbl k dg x htr j hl
        have hsel : sel tbl dg = true := by simp [sel, hl]
        obtain ⟨hk1, hk2⟩ :=
          MMems.discs_key_ok ms wf _ ((MMems.triples_discs ms).subset (List.mem_map_of_mem htr)) k rfl
        -- including `dg` adds the digests in `x`, which are new since all digests in `ms` differ
        have hperm := digestsOn_cons_mark pre _ ms ndm htr hgpre hsel
        have hx : ∀ h ∈ x.digests, h ∈ ms.digestsOn (dg :: pre) (sel tbl) :=
          fun h hh => hperm.mem_iff.mpr (List.mem_append_left _ hh)
        have hnew := (List.nodup_append.mp (hperm.nodup_iff.mp ((digestsOn_sublist _ _ ms).nodup ndd))).2.2
        obtain ⟨st1, hp1, hg1⟩ := IH k dg x htr hsel ⟨dg :: st.seen, dg :: st.used⟩ (fun h hh hin => by
          have hxms := (digestsOn_sublist _ _ ms).subset (hx h hh)
          rcases List.mem_cons.mp hin with rfl | hin
          · exact hgms hxms
          · rcases hseen h hin with h' | h' | h'
            · exact hbase h hxms h'
            · exact hsdm h (List.mem_append_left _ h') hxms
            · exact hnew h hh h h' rfl)
        refine ⟨st1, ?_, fun h hh => (hg1 h hh).elim
          (hold (fun h h' => hperm.mem_iff.mpr (List.mem_append_right _ h')) h) (fun h' => .inr (.inr (hx h h')))⟩
        simp only [hk1, hk2, or_self, if_false, aget_projectOn_none pre _ ms wf htr hgpre, Option.isSome_none,
          Bool.false_eq_true, hp1, projectOn_cons_mark pre _ k dg x ms wf ndm htr hgpre hsel]
    obtain ⟨st', h1, h2⟩ := sdList_spec tbl f ms wf ndm ndd st0 IH htbl hbase rest (g :: pre) st1
      (List.perm_middle.nodup_iff.mp hnd) (fun h hh => hsdm h (List.perm_middle.mem_iff.mpr hh))
      (fun h hh => hr0 h (List.mem_cons_of_mem _ hh)) (fun h hh => hstale h (List.mem_cons_of_mem _ hh)) hseen1
    refine ⟨st', ?_, fun h hh => (h2 h hh).imp id (Or.imp_left List.perm_middle.mem_iff.mpr)⟩
    rw [hstep, List.reverse_cons, List.append_assoc]
    exact h1

/-- table hypotheses on lists, so that they restrict to sub-trees -/
structure TblOn (ds : List SDisc) (stale : List String) (tbl : List (String × J)) : Prop where
  own : ∀ e ∈ ds, ∀ j, lookup tbl e.digest = some j → ∃ salt, j = discJ salt e
  stale : ∀ g ∈ stale, lookup tbl g = none

theorem TblOn.mono {ds ds' : List SDisc} {s s' : List String} {tbl : List (String × J)}
    (h : TblOn ds s tbl) (h1 : ds' ⊆ ds) (h2 : s' ⊆ s) : TblOn ds' s' tbl :=
  ⟨fun e he => h.own e (h1 he), fun g hg => h.stale g (h2 hg)⟩

mutual
/-- **T-ref, the walk**, by recursion on the tree. -/
theorem MJ.runs (tbl : List (String × J)) : (T : MJ) → (fuel : Nat) → T.WF → T.digests.Nodup →
    T.need (sel tbl) ≤ fuel → TblOn T.discs T.deepStale tbl →
    Runs (process tbl fuel T.payload) (T.project (sel tbl)) T.digests
  | T, 0, _, _, hf, _ => by cases T <;> simp [MJ.need] at hf
  | .leaf _, f+1, wf, _, _, _ => Runs.pure (process_scalar tbl f wf)
  | .arr xs, f+1, wf, nd, hf, ht =>
    (MElems.runs tbl xs f wf nd (Nat.le_of_add_le_add_left (Nat.add_comm f 1 ▸ hf)) ht).imp
      (List.Subset.refl _)
      (fun st st' _ h => by simp only [MJ.payload, MJ.hview, MJ.project, process, h])
  | .obj ms sd, f+1, wf, nd, hf, ht => by
    obtain ⟨ndsd, ndm, hd⟩ := List.nodup_append.mp nd
    have htM : TblOn ms.discs ms.deepStale tbl := ht.mono (List.Subset.refl _) (List.subset_append_right _ _)
    obtain ⟨hM, hIH⟩ := MMems.runs tbl ms f wf.1 ndm (Nat.le_of_add_le_add_left (Nat.add_comm f 1 ▸ hf)) htM
    cases sd with
    | none =>
      -- no `_sd`: nothing is hidden here
      refine hM.imp (digestsOn_sublist [] _ ms).subset (fun st st' _ h => ?_)
      simp only [MJ.payload, MJ.hview, withSd, MJ.project, process, h, aget_sd_hview (fun _ => false) ms wf.1,
        projectOn_all (sel tbl) [] ms (fun g hg => wf.2.1 g hg)]
    | some ds =>
      intro st hfr
      obtain ⟨st1, hm1, hg1⟩ := hM st (fun g hg => hfr g (List.mem_append_right _ ((digestsOn_sublist [] _ ms).subset hg)))
      obtain ⟨st2, hs1, hs2⟩ := sdList_spec tbl f ms wf.1 wf.2.2 ndm st hIH
        (fun k dg x htr j hj => htM.own _ ((MMems.triples_discs ms).subset (List.mem_map_of_mem htr)) j hj)
        (fun g hg => hfr g (List.mem_append_right _ hg)) ds [] st1 ndsd
        (fun g hg hh => hd g hg g hh rfl) (fun g hg => hfr g (List.mem_append_left _ hg))
        (fun g hg hnm => ht.stale g (List.mem_append_left _ (List.mem_filter.mpr ⟨hg, by simpa using hnm⟩)))
        (fun g hg => (hg1 g hg).imp id .inr)
      rw [List.append_nil, projectOn_all (sel tbl) ds.reverse ms (fun g hg => List.mem_reverse.mpr (wf.2.1 g hg))] at hs1
      -- the members, then the digests of `_sd` against them
      refine ⟨st2, ?_, fun g hg => ?_⟩
      · simp only [MJ.payload, MJ.hview, withSd, MJ.project, process, aget_ains_self, hs1,
          members_ains_sd tbl f _ _ _ st st1 ((hview_keepsOf _ ms).ne_sd wf.1) hm1,
          adel_ains _ ((projectOn_keepsOf [] _ ms).aget_sd wf.1)]
      rcases hs2 g hg with h | h | h
      · exact .inl h
      · exact .inr (List.mem_append_left _ h)
      · exact .inr (List.mem_append_right _ h)
theorem MElems.runs (tbl : List (String × J)) : (xs : MElems) → (fuel : Nat) → xs.WF → xs.digests.Nodup →
    xs.need (sel tbl) ≤ fuel → TblOn xs.discs xs.deepStale tbl →
    Runs (process.elems tbl fuel (xs.hview fun _ => false)) (xs.project (sel tbl)) xs.digests
  | .nil, f, _, _, _, _ => Runs.pure (fun st => by simp only [MElems.hview, MElems.project, process.elems])
  | .clear x r, f, wf, nd, hf, ht => by
    obtain ⟨ndx, ndr, hd⟩ := List.nodup_append.mp nd
    exact (MJ.runs tbl x f wf.1 ndx (Nat.max_le.mp hf).1
        (ht.mono (List.subset_append_left _ _) (List.subset_append_left _ _))).seq
      (MElems.runs tbl r f wf.2 ndr (Nat.max_le.mp hf).2
        (ht.mono (List.subset_append_right _ _) (List.subset_append_right _ _))) hd
      (fun _ _ _ _ h1 h2 => elems_clear (hview_obj_dots _ x wf.1) h1 h2)
  | .marked dg x r, f, wf, nd, hf, ht => by
    obtain ⟨hdg, nd'⟩ := List.nodup_cons.mp nd
    obtain ⟨ndx, ndr, hd⟩ := List.nodup_append.mp nd'
    have hr := MElems.runs tbl r f wf.2 ndr (Nat.max_le.mp hf).2
      (ht.mono (List.subset_cons_of_subset _ (List.subset_append_right _ _)) (List.subset_append_right _ _))
    cases hl : lookup tbl dg with
    | none =>
      -- no disclosure: the placeholder is removed
      have hsel : sel tbl dg = false := by simp [sel, hl]
      refine (hr.see (fun h => hdg (List.mem_append_right _ h)) St.used).imp
        (List.cons_subset_cons _ (List.subset_append_right _ _)) (fun st st' hfr h => ?_)
      simp only [MElems.hview, MElems.project, hsel, Bool.false_eq_true, if_false, elems_placeholder,
        seeDigest_ok st dg (hfr dg List.mem_cons_self), hl]
      exact h
    | some j =>
      have hsel : sel tbl dg = true := by simp [sel, hl]
      obtain ⟨salt, rfl⟩ := ht.own ⟨dg, none, x.payload⟩ List.mem_cons_self j hl
      have hx := MJ.runs tbl x f wf.1 ndx (by simpa [hsel] using (Nat.max_le.mp hf).1)
        (ht.mono (List.subset_cons_of_subset _ (List.subset_append_left _ _)) (List.subset_append_left _ _))
      refine (hx.see (fun h => hdg (List.mem_append_left _ h)) (fun st => dg :: st.used)).seq hr
        (fun a ha b hb => ?_) (fun st st1 st2 hfr h1 h2 => ?_)
      · rcases List.mem_cons.mp ha with rfl | ha
        · exact fun e => hdg (List.mem_append_right _ (e ▸ hb))
        · exact hd a ha b hb
      · simp only [MElems.hview, MElems.project, hsel, Bool.false_eq_true, if_false, if_true, elems_placeholder,
          seeDigest_ok st dg (hfr dg List.mem_cons_self), hl, discJ, h1, h2]
  | .decoy dg r, f, wf, nd, hf, ht => by
    obtain ⟨hdg, ndr⟩ := List.nodup_cons.mp nd
    refine ((MElems.runs tbl r f wf ndr hf (ht.mono (List.Subset.refl _) (List.subset_cons_self _ _))).see hdg
      St.used).imp (List.Subset.refl _) (fun st st' hfr h => ?_)
    simp only [MElems.hview, MElems.project, elems_placeholder, seeDigest_ok st dg (hfr dg List.mem_cons_self),
      ht.stale dg List.mem_cons_self]
    exact h
/-- the walk over the members (the clear ones; the marked ones are the `_sd` phase's business),
and the walk in every marked member that the table selects -/
theorem MMems.runs (tbl : List (String × J)) : (ms : MMems) → (fuel : Nat) → ms.WF → ms.digests.Nodup →
    ms.need (sel tbl) ≤ fuel → TblOn ms.discs ms.deepStale tbl →
    Runs (process.members tbl fuel (ms.hview fun _ => false)) (ms.projectOn [] (sel tbl))
      (ms.digestsOn [] (sel tbl)) ∧
    ∀ k dg x, (k, dg, x) ∈ ms.markedTriples → sel tbl dg = true →
      Runs (process tbl fuel x.payload) (x.project (sel tbl)) x.digests
  | .nil, f, _, _, _, _ =>
    ⟨Runs.pure (fun st => by simp only [MMems.hview, MMems.projectOn, process.members]),
      fun _ _ _ h => nomatch h⟩
  | .clear k x r, f, wf, nd, hf, ht => by
    obtain ⟨ndx, ndr, hd⟩ := List.nodup_append.mp nd
    have ih := MMems.runs tbl r f wf.2.2.2.2 ndr (Nat.max_le.mp hf).2
      (ht.mono (List.subset_append_right _ _) (List.subset_append_right _ _))
    refine ⟨?_, ih.2⟩
    exact (MJ.runs tbl x f wf.2.2.1 ndx (Nat.max_le.mp hf).1
        (ht.mono (List.subset_append_left _ _) (List.subset_append_left _ _))).seq ih.1
      (fun a ha b hb => hd a ha b ((digestsOn_sublist _ _ r).subset hb))
      (fun st st1 st2 _ h1 h2 => by
        simp only [MJ.payload] at h1
        simp only [MMems.hview, MMems.projectOn, process.members, wf.1, if_false, h1, h2])
  | .marked k dg x r, f, wf, nd, hf, ht => by
    obtain ⟨ndx, ndr, -⟩ := List.nodup_append.mp nd
    have ih := MMems.runs tbl r f wf.2.2.2.2 ndr (Nat.max_le.mp hf).2
      (ht.mono (List.subset_cons_of_subset _ (List.subset_append_right _ _)) (List.subset_append_right _ _))
    refine ⟨by simpa [MMems.hview, MMems.projectOn, MMems.digestsOn] using ih.1, fun k' dg' x' h hS => ?_⟩
    rcases List.mem_cons.mp h with e | h
    · cases e
      exact MJ.runs tbl x f wf.2.2.1 ndx (by simpa [hS] using (Nat.max_le.mp hf).1)
        (ht.mono (List.subset_cons_of_subset _ (List.subset_append_left _ _)) (List.subset_append_left _ _))
    · exact ih.2 k' dg' x' h hS
end

mutual
def _root_.MJ.sz : MJ → Nat
  | .leaf _ => 1
  | .arr xs => 1 + xs.sz
  | .obj ms _ => 1 + ms.sz
def _root_.MElems.sz : MElems → Nat
  | .nil => 0
  | .clear x r => 1 + x.sz + r.sz
  | .marked _ x r => 1 + x.sz + r.sz
  | .decoy _ r => 1 + r.sz
def _root_.MMems.sz : MMems → Nat
  | .nil => 0
  | .clear _ x r => 1 + x.sz + r.sz
  | .marked _ _ x r => 1 + x.sz + r.sz
end

/-- the walk, for all trees, element lists and member lists up to a given size -/
theorem ref_all (tbl : List (String × J)) : ∀ n : Nat,
    (∀ T : MJ, T.sz ≤ n → ∀ (fuel : Nat) (st : St), T.WF → T.digests.Nodup → T.need (sel tbl) ≤ fuel →
      (∀ g ∈ T.digests, g ∉ st.seen) → TblOn T.discs T.deepStale tbl →
      ∃ st', process tbl fuel T.payload st = .ok (T.project (sel tbl), st') ∧ Grows st st' T.digests) ∧
    (∀ xs : MElems, xs.sz ≤ n → ∀ (fuel : Nat) (st : St), xs.WF → xs.digests.Nodup →
      xs.need (sel tbl) ≤ fuel → (∀ g ∈ xs.digests, g ∉ st.seen) → TblOn xs.discs xs.deepStale tbl →
      ∃ st', process.elems tbl fuel (xs.hview fun _ => false) st = .ok (xs.project (sel tbl), st') ∧
        Grows st st' xs.digests) ∧
    (∀ ms : MMems, ms.sz ≤ n → ∀ (fuel : Nat) (st : St), ms.WF → ms.digests.Nodup →
      ms.need (sel tbl) ≤ fuel → (∀ g ∈ ms.digests, g ∉ st.seen) → TblOn ms.discs ms.deepStale tbl →
      ∃ st', process.members tbl fuel (ms.hview fun _ => false) st =
          .ok (ms.projectOn [] (sel tbl), st') ∧ Grows st st' (ms.digestsOn [] (sel tbl))) :=
  fun _ =>
    ⟨fun T _ fuel st wf nd hf hfr ht => MJ.runs tbl T fuel wf nd hf ht st hfr,
     fun xs _ fuel st wf nd hf hfr ht => MElems.runs tbl xs fuel wf nd hf ht st hfr,
     fun ms _ fuel st wf nd hf hfr ht => (MMems.runs tbl ms fuel wf nd hf ht).1 st
       (fun g hg => hfr g ((digestsOn_sublist [] _ ms).subset hg))⟩

/-! ### enough fuel -/

/-- total size of the values of the selected disclosures -/
def sumSel (S : String → Bool) : List SDisc → Nat
  | [] => 0
  | e :: r => (if S e.digest then jsize e.value else 0) + sumSel S r

theorem sumSel_append (S : String → Bool) : (a b : List SDisc) → sumSel S (a ++ b) = sumSel S a + sumSel S b
  | [], b => (Nat.zero_add _).symm
  | e :: r, b => by rw [List.cons_append, sumSel, sumSel, sumSel_append S r b, Nat.add_assoc]

theorem jsize_pos (j : J) : 1 ≤ jsize j := by
  unfold jsize
  split <;> omega

theorem sizeM_ains_ge (k : String) (v : J) : (l : List (String × J)) → aget k l = none →
    jsize.sizeM l ≤ jsize.sizeM (ains k v l)
  | [], _ => Nat.zero_le _
  | (k', w) :: r, h => by
    have hne : k ≠ k' := fun e => by simp [aget, e] at h
    rw [ains, if_neg hne]
    split
    · exact Nat.le_add_left ..
    · exact Nat.add_le_add_left (sizeM_ains_ge k v r (by simpa [aget, hne] using h)) _

theorem sizeM_withSd (sd : Option (List String)) {l : List (String × J)} (h : aget "_sd" l = none) :
    jsize.sizeM l ≤ jsize.sizeM (withSd sd l) := by
  cases sd with
  | none => exact Nat.le_refl _
  | some ds => exact sizeM_ains_ge _ _ _ h

theorem max_le_add {a b c d : Nat} (h1 : a ≤ c) (h2 : b ≤ d) : max a b ≤ c + d :=
  Nat.max_le.mpr ⟨Nat.le_add_right_of_le h1, Nat.le_add_left_of_le h2⟩

theorem ite_le_ite_add {c : Prop} [Decidable c] {a p u : Nat} (h : a ≤ p + u) :
    (if c then a else 0) ≤ (if c then p else 0) + u := by
  split
  · exact h
  · exact Nat.zero_le _

/- The nesting below a node is at most the size of its payload plus the sizes of the selected
disclosures below it: the maximum over the children is at most the sum (`max_le_add`), and what
remains is to regroup the summands. -/
mutual
theorem MJ.need_le (S : String → Bool) : (T : MJ) → T.WF → T.need S ≤ jsize T.payload + sumSel S T.discs
  | .leaf j, _ => Nat.le_add_right_of_le (jsize_pos j)
  | .arr xs, wf => le_of_le_of_eq (Nat.add_le_add_left (MElems.need_le S xs wf) 1) (Nat.add_assoc ..).symm
  | .obj ms sd, wf => le_of_le_of_eq (Nat.add_le_add_left (Nat.le_trans (MMems.need_le S ms wf.1)
      (Nat.add_le_add_right (sizeM_withSd sd ((hview_keepsOf _ ms).aget_sd wf.1)) _)) 1) (Nat.add_assoc ..).symm
theorem MElems.need_le (S : String → Bool) : (xs : MElems) → xs.WF →
    xs.need S ≤ jsize.sizeL (xs.hview fun _ => false) + sumSel S xs.discs
  | .nil, _ => Nat.zero_le _
  | .clear x r, wf => by
    rw [MElems.discs, sumSel_append]
    exact le_of_le_of_eq (max_le_add (MJ.need_le S x wf.1) (MElems.need_le S r wf.2)) (Nat.add_add_add_comm ..)
  | .marked dg x r, wf => by
    rw [MElems.discs, sumSel, sumSel_append]
    exact Nat.le_trans (max_le_add (ite_le_ite_add (MJ.need_le S x wf.1)) (MElems.need_le S r wf.2))
      (by simp +arith [jsize.sizeL])
  | .decoy dg r, wf => Nat.le_trans (MElems.need_le S r wf) (Nat.add_le_add_right (Nat.le_add_left ..) _)
theorem MMems.need_le (S : String → Bool) : (ms : MMems) → ms.WF →
    ms.need S ≤ jsize.sizeM (ms.hview fun _ => false) + sumSel S ms.discs
  | .nil, _ => Nat.zero_le _
  | .clear k x r, wf => by
    rw [MMems.discs, sumSel_append]
    exact le_of_le_of_eq (max_le_add (MJ.need_le S x wf.2.2.1) (MMems.need_le S r wf.2.2.2.2))
      (Nat.add_add_add_comm ..)
  | .marked k dg x r, wf => by
    rw [MMems.discs, sumSel, sumSel_append]
    exact Nat.le_trans (max_le_add (ite_le_ite_add (MJ.need_le S x wf.2.2.1)) (MMems.need_le S r wf.2.2.2.2))
      (by simp +arith)
end

theorem jsize_discJ (salt : J) (e : SDisc) : jsize e.value ≤ jsize (discJ salt e) := by
  unfold discJ
  cases e.key <;> simp +arith [jsize, jsize.sizeL]

theorem sel_cons (g : String) (j : J) (r : List (String × J)) (h : String) :
    sel ((g, j) :: r) h = if h = g then true else sel r h := by
  simp only [sel, lookup]
  split <;> simp

/-- one table entry pays for every disclosure under its digest -/
theorem sumSel_cons_tbl (g : String) (j : J) (r : List (String × J)) : (E : List SDisc) →
    (∀ e ∈ E, e.digest = g → jsize e.value ≤ jsize j) →
    sumSel (sel ((g, j) :: r)) E ≤ E.countP (·.digest == g) * jsize j + sumSel (sel r) (E.filter (·.digest != g))
  | [], _ => Nat.zero_le _
  | e :: E, h => by
    have ih := sumSel_cons_tbl g j r E fun e' he' => h e' (List.mem_cons_of_mem _ he')
    by_cases he : e.digest = g
    · have := h e List.mem_cons_self he
      simp [sumSel, sel_cons, he, Nat.add_mul] at ih ⊢
      omega
    · simp [sumSel, sel_cons, he]
      omega

theorem sumSel_nil : (E : List SDisc) → sumSel (sel []) E = 0
  | [] => rfl
  | _ :: r => by simpa [sumSel, sel, lookup] using sumSel_nil r

/-- the selected disclosures' values are not larger than the table -/
theorem sumSel_le_tbl : (tbl : List (String × J)) → (E : List SDisc) → (E.map (·.digest)).Nodup →
    (∀ e ∈ E, ∀ j, lookup tbl e.digest = some j → ∃ salt, j = discJ salt e) →
    sumSel (sel tbl) E ≤ (tbl.map (fun p => jsize p.2)).sum
  | [], E, _, _ => Nat.le_of_eq (sumSel_nil E)
  | (g, j) :: r, E, nd, hown => by
    have h1 := sumSel_cons_tbl g j r E fun e he hg => by
      obtain ⟨salt, rfl⟩ := hown e he j (by simp [lookup, hg])
      exact jsize_discJ salt e
    -- at most one disclosure has the digest `g`
    have hc : E.countP (·.digest == g) ≤ 1 := by
      simpa [List.count_eq_countP, Function.comp_def] using List.nodup_iff_count.mp nd g
    have h2 := sumSel_le_tbl r (E.filter (·.digest != g)) ((List.filter_sublist.map _).nodup nd)
      fun e he j' hj' => by
        obtain ⟨he, hne⟩ := List.mem_filter.mp he
        exact hown e he j' (by simpa [lookup, bne_iff_ne.mp hne] using hj')
    have := Nat.mul_le_mul_right (jsize j) hc
    simp only [List.map_cons, List.sum_cons]
    omega

/-- the fuel `verify` computes is enough -/
theorem need_le_fuel (T : MJ) (wf : T.WF) (ndm : T.allMarks.Nodup) (tbl : List (String × J))
    (htbl : TblOn T.discs T.deepStale tbl) :
    T.need (sel tbl) ≤ jsize T.payload + (tbl.map (fun p => jsize p.2)).sum + 2 := by
  have h1 := MJ.need_le (sel tbl) T wf
  have h2 := sumSel_le_tbl tbl T.discs (MJ.discs_digest T ▸ ndm) htbl.own
  omega

/-- a top-level `_sd_alg` member dropped -/
def dropAlgJ : J → J
  | .obj ms => .obj (adel "_sd_alg" ms)
  | j => j

/-- **T-ref.** The specification's verification algorithm (`Ref.verify`, non-strict), applied to
the payload of a conformant tree with pairwise distinct digests and a table in which every entry
under the digest of a marked node is that node's disclosure and no entry sits under a digest that
marks nothing, returns exactly the tree's claims with those marked nodes present whose own and
enclosing disclosures are in the table (top-level `_sd_alg` dropped).  The fuel `verify`
computes is shown to suffice. -/
theorem verify_project (T : MJ) (wf : T.WF) (nd : T.digests.Nodup) (ndm : T.allMarks.Nodup)
    (tbl : List (String × J)) (htbl : TblOn T.discs T.deepStale tbl)
    (hshape : shapesOk tbl = .ok ()) (hdup : dupFree tbl = true) :
    verify false T.payload tbl = .ok (dropAlgJ (T.project (sel tbl))) := by
  obtain ⟨st', hp, _⟩ := MJ.runs tbl T _ wf nd (need_le_fuel T wf ndm tbl htbl) htbl ⟨[], []⟩
    (fun _ _ => List.not_mem_nil)
  unfold verify
  simp only [hshape, hdup, Bool.not_true, Bool.false_eq_true, if_false, hp, Bool.false_and]
  cases T.project (sel tbl) <;> rfl

/-! ### tables made of a tree's own disclosures -/

/-- the table for a selection of disclosures, each with its salt -/
def tblOf (sub : List (SDisc × J)) : List (String × J) := sub.map (fun p => (p.1.digest, discJ p.2 p.1))

theorem lookup_tblOf (g : String) : (sub : List (SDisc × J)) →
    lookup (tblOf sub) g = (sub.find? (·.1.digest = g)).map fun p => discJ p.2 p.1
  | [] => rfl
  | p :: r => by
    rw [tblOf, List.map_cons, lookup, ← tblOf, lookup_tblOf g r, List.find?_cons]
    by_cases h : p.1.digest = g
    · simp [h]
    · simp [h, Ne.symm h]

/-- what a table of own disclosures selects -/
theorem sel_tblOf (sub : List (SDisc × J)) (g : String) :
    sel (tblOf sub) g = sub.any (fun p => p.1.digest = g) := by
  simp only [sel, lookup_tblOf, Option.isSome_map, List.isSome_find?]

theorem shapesOk_iff : (tbl : List (String × J)) → shapesOk tbl = .ok () ↔ ∀ p ∈ tbl, shapeOk p.2 = .ok ()
  | [] => by simp [shapesOk]
  | (_, j) :: r => by
    rw [shapesOk, List.forall_mem_cons, ← shapesOk_iff r]
    cases shapeOk j <;> simp

theorem dupFree_iff : (tbl : List (String × J)) → dupFree tbl = true ↔ (tbl.map (·.1)).Nodup
  | [] => by simp [dupFree]
  | (g, _) :: r => by simp [dupFree, dupFree_iff r, -Prod.forall, -Prod.exists]

theorem shapeOk_discJ (salt : J) (e : SDisc) (h : ∀ k, e.key = some k → k ≠ "_sd" ∧ k ≠ "...") :
    shapeOk (discJ salt e) = .ok () := by
  unfold discJ
  cases hk : e.key with
  | none => rfl
  | some k => simp [shapeOk, h k hk]

/-- **T-ref for a selection of the tree's own disclosures.** For every conformant tree with
pairwise distinct digests and marks, and ANY selection `sub` of its disclosures (each with any
salt, none under a decoy's digest, no digest twice), in any order: the specification's algorithm
returns the tree's claims with exactly those marked nodes present whose own and enclosing
disclosures are selected. -/
theorem verify_own (T : MJ) (wf : T.WF) (nd : T.digests.Nodup) (ndm : T.allMarks.Nodup)
    (sub : List (SDisc × J)) (hsub : ∀ p ∈ sub, p.1 ∈ T.discs ∧ p.1.digest ∉ T.deepStale)
    (hnd : (sub.map (·.1.digest)).Nodup) :
    verify false T.payload (tblOf sub) =
      .ok (dropAlgJ (T.project (fun g => sub.any (fun p => p.1.digest = g)))) := by
  have htbl : TblOn T.discs T.deepStale (tblOf sub) := by
    refine ⟨fun e he j hj => ?_, fun g hg => ?_⟩
    · rw [lookup_tblOf, Option.map_eq_some_iff] at hj
      obtain ⟨p, hp, rfl⟩ := hj
      have : p.1 = e := nodup_map_inj (·.digest) T.discs (MJ.discs_digest T ▸ ndm) p.1
        (hsub p (List.mem_of_find?_eq_some hp)).1 e he (by simpa using List.find?_some hp)
      exact ⟨p.2, this ▸ rfl⟩
    · simpa [lookup_tblOf] using fun p q hp e => (hsub _ hp).2 (e ▸ hg)
  rw [verify_project T wf nd ndm (tblOf sub) htbl
    ((shapesOk_iff _).mpr (List.forall_mem_map.mpr fun p hp =>
      shapeOk_discJ p.2 p.1 (MJ.discs_key_ok T wf p.1 (hsub p hp).1)))
    ((dupFree_iff _).mpr (by simpa [tblOf, Function.comp_def] using hnd)), funext (sel_tblOf sub)]

end Ref
