import SdJwt.Impl.Objects
import SdJwt.Lemmas.Assoc
/-! Histories of the `Issuer` and `Holder` objects. -/
open Assoc
namespace Impl

/-- a run does not see the operations that leave every state as it is (`encode`, `build`) -/
theorem foldl_filter_noop {σ ο : Type} (step : σ → ο → σ) (p : ο → Bool)
    (h : ∀ s o, p o = false → step s o = s) :
    (ops : List ο) → (s : σ) → ops.foldl step s = (ops.filter p).foldl step s
  | [], _ => rfl
  | o :: r, s => by
    cases hp : p o <;> simp only [List.filter_cons, hp, List.foldl_cons]
    · rw [h s o hp]; exact foldl_filter_noop step p h r s
    · exact foldl_filter_noop step p h r _

/-! ## Issuer -/

theorem IssuerObj.run_drop_encodes (ops : List IssuerOp) : ∀ s : IssuerObj,
    s.run ops = s.run (ops.filter (fun o => !o.isEncode)) :=
  foldl_filter_noop IssuerObj.step _ (fun s o h => by cases o <;> first | rfl | cases h) ops

theorem IssuerObj.run_append (s : IssuerObj) (a b : List IssuerOp) : s.run (a ++ b) = (s.run a).run b := by
  simp [IssuerObj.run, List.foldl_append]

/-- the paths held after a history: those held before, then every `disclosable` call in call order -/
def pathsOf : List IssuerOp → List String
  | [] => []
  | .disclosable p :: r => p :: pathsOf r
  | _ :: r => pathsOf r

/-- the last `header` call decides, if there is one -/
def lastHeader : List IssuerOp → Option J
  | [] => none
  | .header h :: r => (lastHeader r).orElse (fun _ => some h)
  | _ :: r => lastHeader r

def lastDecoy : List IssuerOp → Option Int
  | [] => none
  | .decoy n :: r => (lastDecoy r).orElse (fun _ => some n)
  | _ :: r => lastDecoy r

def lastCnf : List IssuerOp → Option J
  | [] => none
  | .requireKb k :: r => (lastCnf r).orElse (fun _ => some k)
  | _ :: r => lastCnf r

/-- the last expiry request decides the `exp` that is recorded -/
def lastExp : List IssuerOp → Option Int
  | [] => none
  | .expiresIn n now :: r => (lastExp r).orElse (fun _ => some (now + n))
  | _ :: r => lastExp r

/-- inserting twice under one key: the later value stands -/
theorem ains_twice (k : String) (v v' : J) : (l : List (String × J)) → ains k v (ains k v' l) = ains k v l
  | [] => by simp [ains, slt_irrefl]
  | (k', w) :: r => by
    by_cases h1 : k < k'
    · simp [ains, h1, slt_irrefl]
    · by_cases h2 : k = k'
      · subst h2; simp [ains, slt_irrefl]
      · simp [ains, h1, h2, ains_twice k v v' r]

theorem setExp_setExp (a b : Int) (c : J) : setExp b (setExp a c) = setExp b c := by
  cases c <;> simp [setExp, ains_twice]

/-! ## Holder -/

theorem HolderObj.run_drop_builds (ops : List HolderOp) : ∀ h : HolderObj,
    h.run ops = h.run (ops.filter (fun o => !o.isBuild)) :=
  foldl_filter_noop HolderObj.step _ (fun s o h => by cases o <;> first | rfl | cases h) ops

def redactsOf : List HolderOp → List String
  | [] => []
  | .redact p :: r => p :: redactsOf r
  | _ :: r => redactsOf r

def lastKb : List HolderOp → Option KbParams
  | [] => none
  | .keyBinding a g :: r => (lastKb r).orElse (fun _ => some ⟨a, g⟩)
  | _ :: r => lastKb r

theorem HolderObj.run_state (ops : List HolderOp) : ∀ h : HolderObj,
    (h.run ops).st = h.st ∧ (h.run ops).redacted = h.redacted ++ redactsOf ops ∧
    (h.run ops).kb = (lastKb ops).orElse (fun _ => h.kb) := by
  induction ops with
  | nil => intro h; simp [HolderObj.run, redactsOf, lastKb]
  | cons o r ih =>
    intro h
    have := ih (h.step o)
    cases o <;> simp_all [HolderObj.run, HolderObj.step, redactsOf, lastKb]

/-- what `build` keeps depends on the *set* of redacted paths only: not on the order of the
`redact` calls, not on repetitions -/
theorem keptDisclosures_set (paths : List PathEntry) (r1 r2 : List String)
    (h : ∀ p, p ∈ r1 ↔ p ∈ r2) : keptDisclosures paths r1 = keptDisclosures paths r2 := by
  simp only [keptDisclosures, List.contains_eq_mem, h]

end Impl
