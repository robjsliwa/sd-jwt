import SdJwt.Lemmas.Tree
import SdJwt.Lemmas.Assoc
/-! Every list of members made from an `MMems` by keeping some members under their names (`hview`,
`project`, `projectOn`) has its names among `ms.keys`, in order; what is known of such a list
(sorted, bounded below, no reserved name) then comes from `ms.keys` once. -/
open Assoc Spec

namespace Assoc
variable {α : Type}

theorem aget_eq_none_iff {k : String} : {l : List (String × α)} → aget k l = none ↔ k ∉ l.map (·.1)
  | [] => by simp [aget]
  | (k', v) :: r => by
    by_cases h : k = k' <;> simp [aget, h, aget_eq_none_iff (l := r)]

theorem sorted_iff_pairwise : {l : List (String × α)} → Sorted l ↔ (l.map (·.1)).Pairwise (· < ·)
  | [] => by simp [Sorted]
  | (k, v) :: r => by simp [Sorted, allGt_iff, sorted_iff_pairwise (l := r)]

end Assoc

theorem MMems.keysGt_iff {k0 : String} : {ms : MMems} → ms.keysGt k0 ↔ ∀ k ∈ ms.keys, k0 < k
  | .nil => by simp [MMems.keysGt, MMems.keys]
  | .clear k x r => by simp [MMems.keysGt, MMems.keys, MMems.keysGt_iff (ms := r)]
  | .marked k dg x r => by simp [MMems.keysGt, MMems.keys, MMems.keysGt_iff (ms := r)]

theorem MMems.WF.keys_pairwise : {ms : MMems} → ms.WF → ms.keys.Pairwise (· < ·)
  | .nil, _ => .nil
  | .clear _ _ _, wf => .cons (MMems.keysGt_iff.mp wf.2.2.2.1) (MMems.WF.keys_pairwise wf.2.2.2.2)
  | .marked _ _ _ _, wf => .cons (MMems.keysGt_iff.mp wf.2.2.2.1) (MMems.WF.keys_pairwise wf.2.2.2.2)

theorem MMems.WF.not_key : {ms : MMems} → ms.WF → "_sd" ∉ ms.keys ∧ "..." ∉ ms.keys
  | .nil, _ => ⟨List.not_mem_nil, List.not_mem_nil⟩
  | .clear _ _ _, wf =>
    ⟨List.not_mem_cons_of_ne_of_not_mem (Ne.symm wf.1) (MMems.WF.not_key wf.2.2.2.2).1,
     List.not_mem_cons_of_ne_of_not_mem (Ne.symm wf.2.1) (MMems.WF.not_key wf.2.2.2.2).2⟩
  | .marked _ _ _ _, wf =>
    ⟨List.not_mem_cons_of_ne_of_not_mem (Ne.symm wf.1) (MMems.WF.not_key wf.2.2.2.2).1,
     List.not_mem_cons_of_ne_of_not_mem (Ne.symm wf.2.1) (MMems.WF.not_key wf.2.2.2.2).2⟩

/-- `l` keeps some of the members of `ms`, under their names and in their order -/
def KeepsOf (l : List (String × J)) (ms : MMems) : Prop := (l.map (·.1)).Sublist ms.keys

theorem hview_keepsOf (S : String → Bool) : (ms : MMems) → KeepsOf (ms.hview S) ms
  | .nil => .slnil
  | .clear _ _ r => (hview_keepsOf S r).cons_cons _
  | .marked _ dg _ r => by
    simp only [MMems.hview]
    split
    · exact (hview_keepsOf S r).cons_cons _
    · exact (hview_keepsOf S r).cons _

theorem project_keepsOf (S : String → Bool) : (ms : MMems) → KeepsOf (ms.project S) ms
  | .nil => .slnil
  | .clear _ _ r => (project_keepsOf S r).cons_cons _
  | .marked _ dg _ r => by
    simp only [MMems.project]
    split
    · exact (project_keepsOf S r).cons_cons _
    · exact (project_keepsOf S r).cons _

namespace KeepsOf
variable {l : List (String × J)} {ms : MMems}

theorem sorted (h : KeepsOf l ms) (wf : ms.WF) : Sorted l :=
  sorted_iff_pairwise.mpr (wf.keys_pairwise.sublist h)

theorem allGt {k0 : String} (h : KeepsOf l ms) (hg : ms.keysGt k0) : AllGt k0 l :=
  allGt_iff.mpr fun _ hp => MMems.keysGt_iff.mp hg _ (h.subset (List.mem_map_of_mem hp))

theorem aget_none {k : String} (h : KeepsOf l ms) (hk : k ∉ ms.keys) : aget k l = none :=
  aget_eq_none_iff.mpr fun hh => hk (h.subset hh)

theorem aget_sd (h : KeepsOf l ms) (wf : ms.WF) : aget "_sd" l = none := h.aget_none wf.not_key.1

theorem aget_dots (h : KeepsOf l ms) (wf : ms.WF) : aget "..." l = none := h.aget_none wf.not_key.2

theorem ne_sd (h : KeepsOf l ms) (wf : ms.WF) : ∀ p ∈ l, p.1 ≠ "_sd" :=
  fun _ hp e => wf.not_key.1 (e ▸ h.subset (List.mem_map_of_mem hp))

end KeepsOf
