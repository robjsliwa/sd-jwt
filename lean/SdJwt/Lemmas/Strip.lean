import SdJwt.Impl.Restore
import SdJwt.Lemmas.Tree
import SdJwt.Lemmas.Assoc
/-! `remove_digests` applied to a holder view is the projection: `removeAll (hview S T) = project S T`. -/
open Assoc Spec
namespace Impl

theorem removeM_ains_sd (v : J) : (l : List (String × J)) →
    removeAll.removeM (ains "_sd" v l) = removeAll.removeM l
  | [] => by simp [ains, removeAll.removeM]
  | (k', v') :: r => by
    unfold ains
    split
    · simp [removeAll.removeM]
    · split
      · rename_i h; subst h; simp [removeAll.removeM]
      · rename_i h1 h2
        have : k' ≠ "_sd" := fun e => h2 e.symm
        simp [removeAll.removeM, this, removeM_ains_sd v r]

theorem removeM_withSd (sd : Option (List String)) (l : List (String × J)) :
    removeAll.removeM (withSd sd l) = removeAll.removeM l := by
  cases sd with
  | none => rfl
  | some ds => exact removeM_ains_sd _ l

theorem aget_dots_hview (S : String → Bool) : (ms : MMems) → ms.WF → aget "..." (ms.hview S) = none
  | .nil, _ => rfl
  | .clear k x r, wf => by
      simp only [MMems.WF] at wf
      have : "..." ≠ k := fun e => wf.2.1 e.symm
      simp [MMems.hview, aget, this, aget_dots_hview S r wf.2.2.2.2]
  | .marked k g x r, wf => by
      simp only [MMems.WF] at wf
      have : "..." ≠ k := fun e => wf.2.1 e.symm
      simp only [MMems.hview]
      split
      · simp [aget, this, aget_dots_hview S r wf.2.2.2.2]
      · exact aget_dots_hview S r wf.2.2.2.2

theorem aget_dots_withSd (sd : Option (List String)) (l : List (String × J)) :
    aget "..." (withSd sd l) = aget "..." l := by
  cases sd with
  | none => rfl
  | some ds => exact aget_ains_ne _ (by decide) l

/-- a shown node is never mistaken for a placeholder -/
theorem not_placeholderLike_hview (S : String → Bool) : (T : MJ) → T.WF →
    isPlaceholderLike (T.hview S) = false
  | .leaf j, wf => by cases j <;> simp_all [MJ.hview, isPlaceholderLike, MJ.WF, J.scalar]
  | .arr xs, _ => by simp [MJ.hview, isPlaceholderLike]
  | .obj ms sd, wf => by
      simp only [MJ.WF] at wf
      simp [MJ.hview, isPlaceholderLike, aget_dots_withSd, aget_dots_hview S ms wf.1]

theorem placeholderLike_placeholder (g : String) : isPlaceholderLike (placeholder g) = true := by
  simp [placeholder, isPlaceholderLike, aget]

mutual
theorem MJ.removeAll_hview (S : String → Bool) : (T : MJ) → T.WF →
    removeAll (T.hview S) = T.project S
  | .leaf j, wf => by cases j <;> simp_all [MJ.hview, MJ.project, removeAll, MJ.WF, J.scalar]
  | .arr xs, wf => by
      simp only [MJ.WF] at wf
      simp [MJ.hview, MJ.project, removeAll, MElems.removeL_hview S xs wf]
  | .obj ms sd, wf => by
      simp only [MJ.WF] at wf
      simp [MJ.hview, MJ.project, removeAll, removeM_withSd, MMems.removeM_hview S ms wf.1]
theorem MElems.removeL_hview (S : String → Bool) : (xs : MElems) → xs.WF →
    removeAll.removeL (xs.hview S) = xs.project S
  | .nil, _ => by simp [MElems.hview, MElems.project, removeAll.removeL]
  | .clear x r, wf => by
      simp only [MElems.WF] at wf
      simp [MElems.hview, MElems.project, removeAll.removeL, not_placeholderLike_hview S x wf.1,
        MJ.removeAll_hview S x wf.1, MElems.removeL_hview S r wf.2]
  | .marked g x r, wf => by
      simp only [MElems.WF] at wf
      simp only [MElems.hview, MElems.project]
      split
      · simp [removeAll.removeL, not_placeholderLike_hview S x wf.1,
          MJ.removeAll_hview S x wf.1, MElems.removeL_hview S r wf.2]
      · simp [removeAll.removeL, placeholderLike_placeholder, MElems.removeL_hview S r wf.2]
  | .decoy g r, wf => by
      simp only [MElems.WF] at wf
      simp [MElems.hview, MElems.project, removeAll.removeL, placeholderLike_placeholder,
        MElems.removeL_hview S r wf]
theorem MMems.removeM_hview (S : String → Bool) : (ms : MMems) → ms.WF →
    removeAll.removeM (ms.hview S) = ms.project S
  | .nil, _ => by simp [MMems.hview, MMems.project, removeAll.removeM]
  | .clear k x r, wf => by
      simp only [MMems.WF] at wf
      simp [MMems.hview, MMems.project, removeAll.removeM, wf.1, MJ.removeAll_hview S x wf.2.2.1,
        MMems.removeM_hview S r wf.2.2.2.2]
  | .marked k g x r, wf => by
      simp only [MMems.WF] at wf
      simp only [MMems.hview, MMems.project]
      split
      · simp [removeAll.removeM, wf.1, MJ.removeAll_hview S x wf.2.2.1,
          MMems.removeM_hview S r wf.2.2.2.2]
      · exact MMems.removeM_hview S r wf.2.2.2.2
end

end Impl
