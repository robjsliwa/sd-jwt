import SdJwt.Lemmas.SdOrderInv
import SdJwt.Lemmas.MarkInv
/-!
# The issuer with all its shuffles, at tree level

The crate shuffles the digest lists of a value right before it hides the value (`build_disclosure`) and the
lists of the signed claims at the end (`encode`). A value that is about to be hidden is still in the clear,
so its lists are *visible* lists of the working tree: every such shuffle is a step `T.sdPermVis T'`
(`Lemmas/Shuffle.lean` shows `shuffle_digests` is one). `IssueRun` interleaves them with the marking steps of
`markAll`: permute, mark, permute, mark, …, permute. Whatever the permutations are, the result is a conformant
tree with pairwise distinct digests for the same claims, whose disclosures are those of the start tree plus
exactly the ones made on the way.
-/
open Spec
namespace Impl

/-- permute (visible lists), then mark the addressed node with a digest new to the tree — and so on; a last
permutation at the end -/
def IssueRun (mk : Nat → Option String → J → String) :
    Nat → List (List String × String) → MJ → MJ → List SDisc → Prop
  | _, [], T, Tn, ds => T.sdPermVis Tn ∧ ds = []
  | i, (toks, last) :: r, T, Tn, ds =>
    ∃ T1 T2 d ds', T.sdPermVis T1 ∧ MJ.markIn pI pU (mk i) toks last T1 = some (T2, d) ∧
      d.digest ∉ T1.digests ∧ IssueRun mk (i+1) r T2 Tn ds' ∧ ds = d :: ds'

/-- **the issuer with all its shuffles**: invariants, claims and disclosures after any run -/
theorem issueRun_inv (mk : Nat → Option String → J → String) :
    (addr : List (List String × String)) → (i : Nat) → (T Tn : MJ) → (ds : List SDisc) →
    TreeInv T → IssueRun mk i addr T Tn ds →
    TreeInv Tn ∧ Tn.plain = T.plain ∧ Tn.discs.Perm (ds ++ T.discs) ∧
      Tn.allMarks.Perm (ds.map (·.digest) ++ T.allMarks) ∧ (∀ g ∈ Tn.deepStale, g ∈ T.deepStale)
  | [], _, T, Tn, _, inv, h => by
    obtain ⟨hp, rfl⟩ := h
    obtain ⟨pl, dc, am, _, _, st, _⟩ := MJ.sdPermVis_obs T Tn hp
    exact ⟨inv.sdPermVis hp, pl _, .of_eq dc, .of_eq am, fun _ => st.mem_iff.mp⟩
  | (toks, last) :: r, i, T, Tn, _, inv, h => by
    obtain ⟨T1, T2, d, ds', hp, hm, hf, hrun, rfl⟩ := h
    -- a permutation, one marking (a `markAll` of one address), and the rest of the run
    obtain ⟨pl, dc, am, _, _, st, _⟩ := MJ.sdPermVis_obs T T1 hp
    have h1 : markAll mk i [(toks, last)] T1 = some (T2, [d]) := by simp [markAll, hm, hf]
    obtain ⟨inv2, st2, am2, dc2, _⟩ := markAll_inv mk _ i T1 T2 [d] (inv.sdPermVis hp) h1
    obtain ⟨invn, pln, dcn, amn, stn⟩ := issueRun_inv mk r (i+1) T2 Tn ds' inv2 hrun
    rw [dc] at dc2
    rw [am] at am2
    exact ⟨invn, pln.trans ((markAll_plain mk _ i T1 T2 [d] h1).trans (pl _)),
      dcn.trans ((dc2.append_left ds').trans List.perm_middle),
      amn.trans ((am2.append_left _).trans List.perm_middle),
      fun g hg => st.mem_iff.mp (st2 g (stn g hg))⟩

/-- T-issue ∘ T-restore for the issuer with all its shuffles: start from claims without digests; whatever
permutations were drawn on the way, the holder accepts any selection of the issuer's disclosures in any order
and what it returns strips to the issued tree's projection on the selection -/
theorem issueRun_restore (env : Env) (mk : Nat → Option String → J → String)
    (addr : List (List String × String)) (T Tn : MJ) (ds : List SDisc) (inv : TreeInv T)
    (hclean : T.deepStale = [])
    (h : IssueRun mk 0 addr T Tn ds) (strs : List String)
    (hstr : ∀ s ∈ strs, ∃ e ∈ ds, fromBase64 env s = .ok ⟨s, e.digest, e.key, e.value⟩)
    (hnd : (strs.map env.hash).Nodup) :
    ∃ c ps, restoreAll env Tn.payload strs = .ok (c, ps) ∧
      removeAll c = Tn.project (fun g => strs.any (fun s => env.hash s = g)) := by
  obtain ⟨invn, _, pdi, _, hst⟩ := issueRun_inv mk addr 0 T Tn ds inv h
  refine restore_own env Tn invn strs (fun s hs => ?_) hnd
  obtain ⟨e, he, hf⟩ := hstr s hs
  exact ⟨e, pdi.symm.subset (List.mem_append_left _ he), fun hh => by simpa [hclean] using hst _ hh, hf⟩

end Impl
