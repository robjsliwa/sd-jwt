import SdJwt.Impl.Restore
import SdJwt.Lemmas.JInduct
/-!
What the validating pre-pass `check_digests` computes, for ARBITRARY JSON values (C12), as one
equation (`checkDigests_eq`): it succeeds exactly if no `_sd` is a non-array, no placeholder has
extra members, and no digest is embedded twice or was seen before; and then it returns exactly the
digests it met, appended to those seen before.
-/
open Assoc
namespace Impl

/-- some object, at any depth, has an `_sd` member that is not an array -/
def hasBadSd : J → Bool
  | .obj ms =>
    (match aget "_sd" ms with
     | some (.arr _) => false
     | some _ => true
     | none => false) || badM ms
  | .arr xs => badL xs
  | _ => false
where
  badM : List (String × J) → Bool
    | [] => false
    | (_, v) :: r => hasBadSd v || badM r
  badL : List J → Bool
    | [] => false
    | x :: r => hasBadSd x || badL r

/-- an array item with a `...` member and any other member -/
def isBadPlaceholder : J → Bool
  | .obj ms => (aget "..." ms).isSome && ms.length != 1
  | _ => false

/-- some array, at any depth, has such an item -/
def hasBadPlaceholder : J → Bool
  | .obj ms => bpM ms
  | .arr xs => bpL xs
  | _ => false
where
  bpM : List (String × J) → Bool
    | [] => false
    | (_, v) :: r => hasBadPlaceholder v || bpM r
  bpL : List J → Bool
    | [] => false
    | x :: r => isBadPlaceholder x || hasBadPlaceholder x || bpL r

/-- the digest a well-formed placeholder item carries -/
def phDigest : J → List String
  | .obj ms => match aget "..." ms with
    | some (.str g) => if ms.length = 1 then [g] else []
    | _ => []
  | _ => []

/-- every embedded digest, in the order the pre-pass meets them: the strings of each `_sd`
array, then the members; for arrays, each item's placeholder digest, then the item -/
def embedded : J → List String
  | .obj ms =>
    (match aget "_sd" ms with
     | some (.arr xs) => strsOf xs
     | _ => []) ++ embM ms
  | .arr xs => embL xs
  | _ => []
where
  embM : List (String × J) → List String
    | [] => []
    | (_, v) :: r => embedded v ++ embM r
  embL : List J → List String
    | [] => []
    | x :: r => phDigest x ++ embedded x ++ embL r

/-- the digests `e` are pairwise different and none of them has been seen -/
def Fresh (seen e : List String) : Prop := e.Nodup ∧ ∀ g ∈ e, g ∉ seen

instance (seen e : List String) : Decidable (Fresh seen e) := inferInstanceAs (Decidable (_ ∧ _))

theorem fresh_append {seen a b : List String} :
    Fresh seen (a ++ b) ↔ Fresh seen a ∧ Fresh (seen ++ a) b := by
  simp only [Fresh, List.nodup_append, List.mem_append]
  constructor
  · rintro ⟨⟨ha, hb, hab⟩, hs⟩
    exact ⟨⟨ha, fun g hg => hs g (.inl hg)⟩, hb,
      fun g hg => not_or.mpr ⟨hs g (.inr hg), fun h => hab g h g hg rfl⟩⟩
  · rintro ⟨⟨ha, hsa⟩, hb, hsb⟩
    exact ⟨⟨ha, hb, fun x hx y hy e => (not_or.mp (hsb y hy)).2 (e ▸ hx)⟩,
      fun g hg => hg.elim (hsa g) fun h => (not_or.mp (hsb g h)).1⟩

theorem Fresh.of_nodup_append {seen e : List String} (h : (seen ++ e).Nodup) : Fresh seen e :=
  have := List.nodup_append.mp h
  ⟨this.2.1, fun g hg hs => this.2.2 g hs g hg rfl⟩

/-- what every part of the walk returns: it accepts iff the part has no defect (`good`) and its
digests `e` are fresh, and then it has seen them -/
def walked (seen e : List String) (good : Bool) : Outcome (List String) :=
  if good = true ∧ Fresh seen e then .ok (seen ++ e) else .err .rejected

theorem walked_ok_iff {seen e s : List String} {good : Bool} :
    walked seen e good = .ok s ↔ good = true ∧ Fresh seen e ∧ s = seen ++ e := by
  unfold walked; split <;> simp_all [eq_comm]

theorem walked_bind_ok_iff {β : Type} {seen e : List String} {good : Bool} {f : List String → Outcome β}
    {b : β} : (walked seen e good).bind f = .ok b ↔ good = true ∧ Fresh seen e ∧ f (seen ++ e) = .ok b := by
  unfold walked; split <;> simp_all

theorem walked_nil (seen : List String) : walked seen [] true = .ok seen := by simp [walked, Fresh]

/-- two parts walked one after the other are one part -/
theorem walked_bind (seen a b : List String) (p q : Bool) :
    ((walked seen a p).bind fun s => walked s b q) = walked seen (a ++ b) (p && q) := by
  unfold walked
  by_cases h1 : p = true ∧ Fresh seen a
  · by_cases h2 : q = true ∧ Fresh (seen ++ a) b <;> simp [h1, h2, fresh_append, List.append_assoc]
  · have : ¬ ((p && q) = true ∧ Fresh seen (a ++ b)) := fun h =>
      h1 ⟨(Bool.and_eq_true_iff.mp h.1).1, (fresh_append.mp h.2).1⟩
    rw [if_neg h1, if_neg this]; rfl

theorem note_eq (seen : List String) (g : String) : note seen g = walked seen [g] true := by
  by_cases h : g ∈ seen <;> simp [note, walked, Fresh, h]

theorem noteAll_cons (g : String) (r seen : List String) :
    noteAll (g :: r) seen = (note seen g).bind (noteAll r) := by
  rw [noteAll]; cases note seen g <;> rfl

theorem checkM_cons (k : String) (v : J) (r : List (String × J)) (seen : List String) :
    checkDigests.checkM ((k, v) :: r) seen = (checkDigests v seen).bind (checkDigests.checkM r) := by
  rw [checkDigests.checkM]; cases checkDigests v seen <;> rfl

theorem checkL_cons (x : J) (r : List J) (seen : List String) :
    checkDigests.checkL (x :: r) seen =
      (phNote x seen).bind fun s => (checkDigests x s).bind (checkDigests.checkL r) := by
  rw [checkDigests.checkL]; cases phNote x seen <;> try rfl
  rename_i s; dsimp only [Outcome.bind]; cases checkDigests x s <;> rfl

theorem checkDigests_obj_sd {ms : List (String × J)} {xs : List J} (h : aget "_sd" ms = some (.arr xs))
    (seen : List String) :
    checkDigests (.obj ms) seen = (noteAll (strsOf xs) seen).bind (checkDigests.checkM ms) := by
  rw [checkDigests]; simp only [h]; cases noteAll (strsOf xs) seen <;> rfl

theorem noteAll_eq : (gs seen : List String) → noteAll gs seen = walked seen gs true
  | [], seen => (walked_nil seen).symm
  | g :: r, seen => by
    rw [noteAll_cons, note_eq, funext (noteAll_eq r), walked_bind]; rfl

theorem phNote_eq (x : J) (seen : List String) :
    phNote x seen = walked seen (phDigest x) (!isBadPlaceholder x) := by
  unfold phNote phDigest isBadPlaceholder
  split
  · rename_i ms
    split
    · rename_i ph h
      by_cases hl : ms.length = 1
      · cases ph <;> simp [h, hl, note_eq, walked_nil]
      · simp [h, hl, walked]
    · rename_i h; simp [h, walked_nil]
  · rename_i h
    cases x <;> first | exact (walked_nil seen).symm | exact absurd rfl (h _)

/-- **The pre-pass as one equation**: `check_digests` accepts iff the value has no defect and the
digests embedded in it are fresh, and then it has seen exactly those. -/
theorem checkDigests_eq_all :
    (∀ j seen, checkDigests j seen = walked seen (embedded j) (!hasBadSd j && !hasBadPlaceholder j)) ∧
    (∀ xs seen, checkDigests.checkL xs seen =
      walked seen (embedded.embL xs) (!hasBadSd.badL xs && !hasBadPlaceholder.bpL xs)) ∧
    (∀ ms seen, checkDigests.checkM ms seen =
      walked seen (embedded.embM ms) (!hasBadSd.badM ms && !hasBadPlaceholder.bpM ms)) := by
  refine J.induct3 ?_ ?_ ?_ ?_ ?_ ?_ ?_
  · intro j h seen
    cases j <;> first | exact h.elim | exact (walked_nil seen).symm
  · exact fun xs ih seen => ih seen
  · intro ms ih seen
    cases h : aget "_sd" ms with
    | none => simpa [checkDigests, embedded, hasBadSd, hasBadPlaceholder, h] using ih seen
    | some v =>
      cases v with
      | arr xs =>
        rw [checkDigests_obj_sd h, noteAll_eq, funext ih, walked_bind]
        simp [embedded, hasBadSd, hasBadPlaceholder, h]
      | _ => simp [checkDigests, embedded, hasBadSd, hasBadPlaceholder, h, walked]
  · exact fun seen => (walked_nil seen).symm
  · intro x r ihx ihr seen
    rw [checkL_cons, phNote_eq, funext ihr]
    simp only [ihx, walked_bind, embedded.embL, hasBadSd.badL, hasBadPlaceholder.bpL, List.append_assoc]
    congr 1
    cases isBadPlaceholder x <;> cases hasBadSd x <;> cases hasBadPlaceholder x <;> simp
  · exact fun seen => (walked_nil seen).symm
  · intro k v r ihv ihr seen
    rw [checkM_cons, ihv, funext ihr, walked_bind]
    simp only [embedded.embM, hasBadSd.badM, hasBadPlaceholder.bpM]
    congr 1
    cases hasBadSd v <;> cases hasBadPlaceholder v <;> simp

theorem checkDigests_eq (j : J) (seen : List String) :
    checkDigests j seen = walked seen (embedded j) (!hasBadSd j && !hasBadPlaceholder j) :=
  checkDigests_eq_all.1 j seen

/-- the statement carried through the walk -/
def CheckSpec (j : J) (seen s : List String) : Prop :=
  s = seen ++ embedded j ∧ (∀ g ∈ embedded j, g ∉ seen) ∧ (embedded j).Nodup ∧
  hasBadSd j = false ∧ hasBadPlaceholder j = false

theorem checkDigests_ok (j : J) (seen : List String) :
    ∀ s, checkDigests j seen = .ok s → CheckSpec j seen s := fun s h => by
  obtain ⟨hg, hf, rfl⟩ := walked_ok_iff.mp (checkDigests_eq j seen ▸ h)
  simp only [Bool.and_eq_true, Bool.not_eq_true'] at hg
  exact ⟨rfl, hf.2, hf.1, hg.1, hg.2⟩

end Impl
