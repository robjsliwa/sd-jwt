import SdJwt.Lemmas.Segments
import SdJwt.Lemmas.Paths
import SdJwt.Lemmas.MarkInv
import SdJwt.Lemmas.Keys
/-!
# A pointer goes through another pointer iff the node lies inside the other node

`T.spaths segs` lists (segments, digest) of every marked node; `T.under g` lists the marks
strictly inside the node marked `g`.  For a conformant tree with pairwise distinct marks, the
segment list of `e` properly extends that of `e'` exactly when `e` lies inside `e'`.
-/
open Assoc Spec Path
namespace Impl

mutual
/-- (segments from the root, digest) of every marked node -/
def _root_.MJ.spaths (segs : List String) : MJ → List (List String × String)
  | .leaf _ => []
  | .arr xs => xs.spaths segs 0
  | .obj ms _ => ms.spaths segs
def _root_.MElems.spaths (segs : List String) (i : Nat) : MElems → List (List String × String)
  | .nil => []
  | .clear x r => x.spaths (segs ++ [toString i]) ++ r.spaths segs (i+1)
  | .marked dg x r => (segs ++ [toString i], dg) :: (x.spaths (segs ++ [toString i]) ++ r.spaths segs (i+1))
  | .decoy _ r => r.spaths segs (i+1)
def _root_.MMems.spaths (segs : List String) : MMems → List (List String × String)
  | .nil => []
  | .clear k x r => x.spaths (segs ++ [escapeSeg k]) ++ r.spaths segs
  | .marked k dg x r => (segs ++ [escapeSeg k], dg) :: (x.spaths (segs ++ [escapeSeg k]) ++ r.spaths segs)
end

mutual
/-- the marks strictly inside the node(s) marked `g` -/
def _root_.MJ.under (g : String) : MJ → List String
  | .leaf _ => []
  | .arr xs => xs.under g
  | .obj ms _ => ms.under g
def _root_.MElems.under (g : String) : MElems → List String
  | .nil => []
  | .clear x r => x.under g ++ r.under g
  | .marked dg x r => (if dg = g then x.allMarks else x.under g) ++ r.under g
  | .decoy _ r => r.under g
def _root_.MMems.under (g : String) : MMems → List String
  | .nil => []
  | .clear _ x r => x.under g ++ r.under g
  | .marked _ dg x r => (if dg = g then x.allMarks else x.under g) ++ r.under g
end

attribute [local simp] MJ.spaths MElems.spaths MMems.spaths MJ.under MElems.under MMems.under

/-- `v` goes properly through `u` -/
def ProperExt (u v : List String) : Prop := ∃ x c, v = u ++ x :: c

theorem ProperExt.prefix {u v : List String} (h : ProperExt u v) : u <+: v := by
  obtain ⟨x, c, rfl⟩ := h; exact List.prefix_append _ _

theorem ProperExt.length {u v : List String} (h : ProperExt u v) : u.length < v.length := by
  obtain ⟨x, c, rfl⟩ := h; simp

theorem ProperExt.irrefl (u : List String) : ¬ ProperExt u u := fun h => by have := h.length; omega

theorem properExt_of_prefix {p u : List String} (h1 : p <+: u) (h2 : p.length < u.length) : ProperExt p u := by
  obtain ⟨t, rfl⟩ := h1
  cases t with
  | nil => simp at h2
  | cons x c => exact ⟨x, c, rfl⟩

theorem ProperExt.trans_prefix {p u v : List String} (h1 : ProperExt p u) (h2 : u <+: v) : ProperExt p v :=
  properExt_of_prefix (h1.prefix.trans h2) (by have := h1.length; have := h2.length_le; omega)

/-- two paths through different children of the same node do not go through each other -/
theorem sep {segs u v : List String} {a b : String} (hab : a ≠ b)
    (hu : (segs ++ [a]) <+: u) (hv : (segs ++ [b]) <+: v) : ¬ u <+: v := fun h =>
  have := (List.prefix_of_prefix_length_le (hu.trans h) hv (by simp)).eq_of_length (by simp)
  hab (by simpa using this)

/-! ### the decimal of an index -/

theorem toString_toList (i : Nat) : (toString i).toList = Nat.toDigits 10 i := Nat.toList_repr

theorem toString_isDigit (i : Nat) : ∀ c ∈ (toString i).toList, c.isDigit = true :=
  fun _ hc => Nat.isDigit_of_mem_toDigits (by omega) (by omega) (toString_toList i ▸ hc)

theorem toString_nat_inj {i j : Nat} (h : toString i = toString j) : i = j := by
  simpa using congrArg (fun s => Nat.ofDigitChars 10 s.toList 0) h

theorem escapeSeg_inj {k k' : String} (h : escapeSeg k = escapeSeg k') : k = k' := by
  simpa [escapeSeg, unescape_escape, String.toList_inj] using congrArg (fun s => unescapeTok s.toList) h

/-! ### `under` lists marks of the tree -/

theorem sub_own {u : String → List String} {m : List String} (dg : String) (h : ∀ g, (u g).Sublist m) (g : String) :
    (if dg = g then m else u g).Sublist (dg :: m) := by
  split
  · exact .cons _ (.refl _)
  · exact .cons _ (h g)

mutual
theorem MJ.under_sub (g : String) : (T : MJ) → (T.under g).Sublist T.allMarks
  | .leaf _ => .slnil
  | .arr xs => MElems.under_sub g xs
  | .obj ms _ => MMems.under_sub g ms
theorem MElems.under_sub (g : String) : (xs : MElems) → (xs.under g).Sublist xs.allMarks
  | .nil => .slnil
  | .clear x r => (MJ.under_sub g x).append (MElems.under_sub g r)
  | .marked dg x r => (sub_own dg (MJ.under_sub · x) g).append (MElems.under_sub g r)
  | .decoy _ r => MElems.under_sub g r
theorem MMems.under_sub (g : String) : (ms : MMems) → (ms.under g).Sublist ms.allMarks
  | .nil => .slnil
  | .clear _ x r => (MJ.under_sub g x).append (MMems.under_sub g r)
  | .marked _ dg x r => (sub_own dg (MJ.under_sub · x) g).append (MMems.under_sub g r)
end

theorem _root_.MMems.keysGt_mem (ms : MMems) (k0 : String) (h : ms.keysGt k0) : ∀ k' ∈ ms.keys, k0 < k' :=
  MMems.keysGt_iff.mp h

/-- on the entries `l`, going properly through = lying inside -/
def AncOK (l : List (List String × String)) (under : String → List String) : Prop :=
  ∀ e' ∈ l, ∀ e ∈ l, (ProperExt e'.1 e.1 ↔ e.2 ∈ under e'.2)

/-! ### blocks of addresses below the children of one node

What the enumerations of addresses (`spaths`, `yaddrs`) have in common: the entries found below a
child go through that child, and entries through different children do not go through each other. -/

/-- every address in `l` goes through a child `q ++ [s]` of `q` with `S s` -/
def Through {α : Type} (addr : α → List String) (q : List String) (S : String → Prop) (l : List α) : Prop :=
  ∀ e ∈ l, ∃ s, S s ∧ (q ++ [s]) <+: addr e

section through
variable {α : Type} {addr : α → List String} {q : List String} {S S' : String → Prop} {l l' : List α}

theorem Through.nil : Through addr q S [] := fun _ h => nomatch h

theorem Through.mono (h : Through addr q S l) (hS : ∀ s, S s → S' s) : Through addr q S' l :=
  fun e he => let ⟨s, hs, hp⟩ := h e he; ⟨s, hS s hs, hp⟩

theorem Through.properExt (h : Through addr q S l) : ∀ e ∈ l, ProperExt q (addr e) :=
  fun e he => let ⟨s, _, t, ht⟩ := h e he; ⟨s, t, by simp [← ht]⟩

/-- what lies below the child `a` of `q`, seen from `q` -/
theorem Through.lift {a : String} (h : Through addr (q ++ [a]) S l) : Through addr q (· = a) l :=
  fun e he => ⟨a, rfl, (h.properExt e he).prefix⟩

theorem Through.cons {a : String} {e : α} (he : addr e = q ++ [a]) (h : Through addr q (· = a) l) :
    Through addr q (· = a) (e :: l) :=
  List.forall_mem_cons.mpr ⟨⟨a, rfl, he ▸ List.prefix_refl _⟩, h⟩

theorem Through.append (h : Through addr q S l) (h' : Through addr q S' l') :
    Through addr q (fun s => S s ∨ S' s) (l ++ l') :=
  List.forall_mem_append.mpr ⟨h.mono fun _ => .inl, h'.mono fun _ => .inr⟩

/-- addresses through different children do not go through each other -/
theorem Through.sep (h : Through addr q S l) (h' : Through addr q S' l') (hS : ∀ s, S s → ¬ S' s) :
    ∀ e ∈ l, ∀ e' ∈ l', ¬ addr e <+: addr e' ∧ ¬ addr e' <+: addr e := fun e he e' he' =>
  let ⟨s, hs, hp⟩ := h e he
  let ⟨s', hs', hp'⟩ := h' e' he'
  have hne : s ≠ s' := fun e0 => hS s hs (e0 ▸ hs')
  ⟨Impl.sep hne hp hp', Impl.sep hne.symm hp' hp⟩

end through

/-- the children of an array from position `i` on -/
def FromIdx (i : Nat) (s : String) : Prop := ∃ j, i ≤ j ∧ s = toString j

theorem FromIdx.succ {i : Nat} {s : String} : FromIdx (i+1) s → FromIdx i s := fun ⟨j, hj, e⟩ => ⟨j, by omega, e⟩

theorem FromIdx.cons {i : Nat} {s : String} : s = toString i ∨ FromIdx (i+1) s → FromIdx i s :=
  fun h => h.elim (⟨i, Nat.le_refl i, ·⟩) .succ

theorem FromIdx.sep {i : Nat} {s : String} (hs : s = toString i) : ¬ FromIdx (i+1) s :=
  fun ⟨j, hj, e⟩ => by have := toString_nat_inj (hs.symm.trans e); omega

/-- the children of an object with the names `ks`, as `f` spells them -/
def KeyOf (f : String → String) (ks : List String) (s : String) : Prop := ∃ k ∈ ks, s = f k

theorem KeyOf.cons {f : String → String} {k s : String} {ks : List String} :
    s = f k ∨ KeyOf f ks s → KeyOf f (k :: ks) s :=
  fun h => h.elim (⟨k, List.mem_cons_self, ·⟩) fun ⟨k', hk', e⟩ => ⟨k', List.mem_cons_of_mem _ hk', e⟩

theorem KeyOf.sep {f : String → String} (hf : ∀ {a b}, f a = f b → a = b) {k s : String} {r : MMems}
    (hg : r.keysGt k) (hs : s = f k) : ¬ KeyOf f r.keys s :=
  fun ⟨k', hk', e⟩ => slt_ne (MMems.keysGt_iff.mp hg k' hk') (hf (hs.symm.trans e))

/-- What the ancestry induction carries for a block `l` of entries below the pointer `q`: `u` plays
`under`, `m` plays `allMarks`. -/
structure Zone (q : List String) (S : String → Prop) (l : List (List String × String))
    (u : String → List String) (m : List String) : Prop where
  anc : AncOK l u
  ext : Through (·.1) q S l
  mem : ∀ e ∈ l, e.2 ∈ m
  sub : ∀ g, (u g).Sublist m
  nil : ∀ g, g ∉ m → u g = []

theorem Zone.empty (q : List String) (S : String → Prop) : Zone q S [] (fun _ => []) [] :=
  ⟨fun _ h => (nomatch h), .nil, fun _ h => (nomatch h), fun _ => .slnil, fun _ _ => rfl⟩

theorem Zone.mono {q S S' l u m} (h : Zone q S l u m) (hS : ∀ s, S s → S' s) : Zone q S' l u m :=
  { h with ext := h.ext.mono hS }

theorem Zone.lift {q a S l u m} (h : Zone (q ++ [a]) S l u m) : Zone q (· = a) l u m :=
  { h with ext := h.ext.lift }

/-- a marked child `a` of `q` in front of the entries inside it -/
theorem Zone.own {q a S l u m} (h : Zone (q ++ [a]) S l u m) (dg : String) (hdg : dg ∉ m) :
    Zone q (· = a) ((q ++ [a], dg) :: l) (fun g => if dg = g then m else u g) (dg :: m) where
  anc := fun e' he' e he => by
    have hne : ∀ e ∈ l, dg ≠ e.2 := fun e he e0 => hdg (e0 ▸ h.mem e he)
    rcases List.mem_cons.mp he' with rfl | he' <;> rcases List.mem_cons.mp he with rfl | he
    · simpa using iff_of_false (ProperExt.irrefl (q ++ [a])) hdg
    · simpa using iff_of_true (h.ext.properExt e he) (h.mem e he)
    · simp only [hne e' he', if_false]
      exact ⟨fun hp => by have := (h.ext.properExt e' he').length; have := hp.length; omega,
        fun hh => absurd ((h.sub _).subset hh) hdg⟩
    · simpa [hne e' he'] using h.anc e' he' e he
  ext := h.ext.lift.cons rfl
  mem := List.forall_mem_cons.mpr ⟨List.mem_cons_self, fun e he => List.mem_cons_of_mem _ (h.mem e he)⟩
  sub := sub_own dg h.sub
  nil := fun g hg => by
    simp only [List.mem_cons, not_or] at hg
    simp [Ne.symm hg.1, h.nil g hg.2]

/-- two blocks below `q` through different children and with different marks -/
theorem Zone.append {q SX SR lX lR uX uR mX mR} (hX : Zone q SX lX uX mX) (hR : Zone q SR lR uR mR)
    (hS : ∀ s, SX s → ¬ SR s) (hd : ∀ a ∈ mX, ∀ b ∈ mR, a ≠ b) :
    Zone q (fun s => SX s ∨ SR s) (lX ++ lR) (fun g => uX g ++ uR g) (mX ++ mR) where
  anc := fun e' he' e he => by
    have hsep := hX.ext.sep hR.ext hS
    rcases List.mem_append.mp he' with he' | he'
    -- `e'` is in one block: nothing of the other block lies inside it
    · simp only [hR.nil _ fun h => hd _ (hX.mem e' he') _ h rfl, List.append_nil]
      rcases List.mem_append.mp he with he | he
      · exact hX.anc e' he' e he
      · exact ⟨fun hp => absurd hp.prefix (hsep e' he' e he).1,
          fun hh => absurd rfl (hd _ ((hX.sub _).subset hh) _ (hR.mem e he))⟩
    · simp only [hX.nil _ fun h => hd _ h _ (hR.mem e' he') rfl, List.nil_append]
      rcases List.mem_append.mp he with he | he
      · exact ⟨fun hp => absurd hp.prefix (hsep e he e' he').2,
          fun hh => absurd rfl (hd _ (hX.mem e he) _ ((hR.sub _).subset hh))⟩
      · exact hR.anc e' he' e he
  ext := hX.ext.append hR.ext
  mem := fun e he => List.mem_append.mpr ((List.mem_append.mp he).imp (hX.mem e) (hR.mem e))
  sub := fun g => (hX.sub g).append (hR.sub g)
  nil := fun g hg => by
    simp only [List.mem_append, not_or] at hg
    simp [hX.nil g hg.1, hR.nil g hg.2]

mutual
theorem MJ.zone : (T : MJ) → (q : List String) → T.WF → T.allMarks.Nodup →
    Zone q (fun _ => True) (T.spaths q) T.under T.allMarks
  | .leaf _, q, _, _ => Zone.empty q _
  | .arr xs, q, wf, nd => (MElems.zone xs q 0 wf nd).mono fun _ _ => trivial
  | .obj ms _, q, wf, nd => (MMems.zone ms q wf.1 nd).mono fun _ _ => trivial
theorem MElems.zone : (xs : MElems) → (q : List String) → (i : Nat) → xs.WF → xs.allMarks.Nodup →
    Zone q (FromIdx i) (xs.spaths q i) xs.under xs.allMarks
  | .nil, q, _, _, _ => Zone.empty q _
  | .clear x r, q, i, ⟨wx, wr⟩, nd =>
    have ⟨nx, nr, d⟩ := List.nodup_append.mp nd
    ((MJ.zone x _ wx nx).lift.append (MElems.zone r q (i+1) wr nr) (fun _ => FromIdx.sep) d).mono fun _ => .cons
  | .marked dg x r, q, i, ⟨wx, wr⟩, nd =>
    have ⟨nx, nr, d⟩ := (List.nodup_append (l₁ := dg :: x.allMarks)).mp nd
    have ⟨hdg, nx⟩ := List.nodup_cons.mp nx
    (((MJ.zone x _ wx nx).own dg hdg).append (MElems.zone r q (i+1) wr nr) (fun _ => FromIdx.sep) d).mono
      fun _ => .cons
  | .decoy _ r, q, i, wf, nd => (MElems.zone r q (i+1) wf nd).mono fun _ => .succ
theorem MMems.zone : (ms : MMems) → (q : List String) → ms.WF → ms.allMarks.Nodup →
    Zone q (KeyOf escapeSeg ms.keys) (ms.spaths q) ms.under ms.allMarks
  | .nil, q, _, _ => Zone.empty q _
  | .clear _ x r, q, ⟨_, _, wx, hgt, wr⟩, nd =>
    have ⟨nx, nr, d⟩ := List.nodup_append.mp nd
    ((MJ.zone x _ wx nx).lift.append (MMems.zone r q wr nr) (fun _ => KeyOf.sep escapeSeg_inj hgt) d).mono
      fun _ => .cons
  | .marked _ dg x r, q, ⟨_, _, wx, hgt, wr⟩, nd =>
    have ⟨nx, nr, d⟩ := (List.nodup_append (l₁ := dg :: x.allMarks)).mp nd
    have ⟨hdg, nx⟩ := List.nodup_cons.mp nx
    (((MJ.zone x _ wx nx).own dg hdg).append (MMems.zone r q wr nr) (fun _ => KeyOf.sep escapeSeg_inj hgt) d).mono
      fun _ => .cons
end

/-- **Going through a pointer = lying inside the node.** -/
theorem MJ.anc : (T : MJ) → (p : List String) → T.WF → T.allMarks.Nodup → AncOK (T.spaths p) T.under :=
  fun T p wf nd => (MJ.zone T p wf nd).anc
theorem MMems.anc : (ms : MMems) → (p : List String) → ms.WF → ms.allMarks.Nodup →
    AncOK (ms.spaths p) ms.under :=
  fun ms p wf nd => (MMems.zone ms p wf nd).anc

/-! ### rendered pointers -/

mutual
theorem MJ.paths_eq_spaths : (T : MJ) → (segs : List String) →
    T.paths (joinPath segs) = (T.spaths segs).map (fun e => (joinPath e.1, e.2))
  | .leaf _, _ => rfl
  | .arr xs, segs => MElems.paths_eq_spaths xs segs 0
  | .obj ms _, segs => MMems.paths_eq_spaths ms segs
theorem MElems.paths_eq_spaths : (xs : MElems) → (segs : List String) → (i : Nat) →
    xs.paths (joinPath segs) i = (xs.spaths segs i).map (fun e => (joinPath e.1, e.2))
  | .nil, _, _ => rfl
  | .clear x r, segs, i => by
    simp [-Nat.toString_eq_repr, fmtPath_joinPath, escapeSeg_index, MJ.paths_eq_spaths x, MElems.paths_eq_spaths r segs (i+1)]
  | .marked dg x r, segs, i => by
    simp [-Nat.toString_eq_repr, fmtPath_joinPath, escapeSeg_index, MJ.paths_eq_spaths x, MElems.paths_eq_spaths r segs (i+1)]
  | .decoy _ r, segs, i => MElems.paths_eq_spaths r segs (i+1)
theorem MMems.paths_eq_spaths : (ms : MMems) → (segs : List String) →
    ms.paths (joinPath segs) = (ms.spaths segs).map (fun e => (joinPath e.1, e.2))
  | .nil, _ => rfl
  | .clear k x r, segs => by simp [fmtPath_joinPath, MJ.paths_eq_spaths x, MMems.paths_eq_spaths r segs]
  | .marked k dg x r, segs => by simp [fmtPath_joinPath, MJ.paths_eq_spaths x, MMems.paths_eq_spaths r segs]
end

mutual
/-- a property of segment lists that adding an escaped segment keeps holds of every entry
(an index is its own escaping) -/
theorem MJ.spaths_all (P : List String → Prop) (hk : ∀ s k, P s → P (s ++ [escapeSeg k])) :
    (T : MJ) → (p : List String) → P p → ∀ e ∈ T.spaths p, P e.1
  | .leaf _, _, _ => nofun
  | .arr xs, p, hp => MElems.spaths_all P hk xs p 0 hp
  | .obj ms _, p, hp => MMems.spaths_all P hk ms p hp
theorem MElems.spaths_all (P : List String → Prop) (hk : ∀ s k, P s → P (s ++ [escapeSeg k])) :
    (xs : MElems) → (p : List String) → (i : Nat) → P p → ∀ e ∈ xs.spaths p i, P e.1
  | .nil, _, _, _ => nofun
  | .clear x r, p, i, hp => List.forall_mem_append.mpr
    ⟨MJ.spaths_all P hk x _ (escapeSeg_index i ▸ hk p (toString i) hp), MElems.spaths_all P hk r p (i+1) hp⟩
  | .marked _ x r, p, i, hp =>
    have hi := escapeSeg_index i ▸ hk p (toString i) hp
    List.forall_mem_cons.mpr ⟨hi, List.forall_mem_append.mpr
      ⟨MJ.spaths_all P hk x _ hi, MElems.spaths_all P hk r p (i+1) hp⟩⟩
  | .decoy _ r, p, i, hp => MElems.spaths_all P hk r p (i+1) hp
theorem MMems.spaths_all (P : List String → Prop) (hk : ∀ s k, P s → P (s ++ [escapeSeg k])) :
    (ms : MMems) → (p : List String) → P p → ∀ e ∈ ms.spaths p, P e.1
  | .nil, _, _ => nofun
  | .clear k x r, p, hp => List.forall_mem_append.mpr
    ⟨MJ.spaths_all P hk x _ (hk p k hp), MMems.spaths_all P hk r p hp⟩
  | .marked k _ x r, p, hp => List.forall_mem_cons.mpr ⟨hk p k hp, List.forall_mem_append.mpr
    ⟨MJ.spaths_all P hk x _ (hk p k hp), MMems.spaths_all P hk r p hp⟩⟩
end

theorem noslash_snoc {p : List String} (k : String) (hp : ∀ s ∈ p, '/' ∉ s.toList) :
    ∀ s ∈ p ++ [escapeSeg k], '/' ∉ s.toList :=
  List.forall_mem_append.mpr ⟨hp, by simpa [escapeSeg] using escapeL_no_slash k.toList⟩

theorem MJ.spaths_noslash : (T : MJ) → (p : List String) → (∀ s ∈ p, '/' ∉ s.toList) →
    ∀ e ∈ T.spaths p, ∀ s ∈ e.1, '/' ∉ s.toList :=
  MJ.spaths_all _ fun _ => noslash_snoc
theorem MMems.spaths_noslash : (ms : MMems) → (p : List String) → (∀ s ∈ p, '/' ∉ s.toList) →
    ∀ e ∈ ms.spaths p, ∀ s ∈ e.1, '/' ∉ s.toList :=
  MMems.spaths_all _ fun _ => noslash_snoc

/-- **The holder's string test is the tree's ancestry.** For two marked nodes of a conformant
tree with pointers `q'`, `q` (as `format_path` renders them) and digests `g'`, `g`:
`q` starts with `q' + "/"` iff the node `g` lies strictly inside the node `g'`. -/
theorem starts_with_iff_under (T : MJ) (wf : T.WF) (nd : T.allMarks.Nodup)
    (q' g' q g : String) (h' : (q', g') ∈ T.paths "") (h : (q, g) ∈ T.paths "") :
    ((q' ++ "/").toList.isPrefixOf q.toList = true) ↔ g ∈ T.under g' := by
  rw [show "" = joinPath [] from rfl, MJ.paths_eq_spaths] at h' h
  obtain ⟨e', he', ⟨⟩⟩ := List.mem_map.mp h'
  obtain ⟨e, he, ⟨⟩⟩ := List.mem_map.mp h
  rw [joinPath_prefix e'.1 e.1 (MJ.spaths_noslash T [] nofun e' he') (MJ.spaths_noslash T [] nofun e he)]
  exact MJ.anc T [] wf nd e' he' e he

/-! ### dropping a node drops everything inside it: two selections that differ only inside
dropped nodes project alike -/

/-- the selections agree on the marks `m`, except inside (`u`) what both leave out -/
def Agree (S0 S1 : String → Bool) (m : List String) (u : String → List String) : Prop :=
  ∀ g ∈ m, S1 g = S0 g ∨ ∃ a, g ∈ u a ∧ S0 a = false ∧ S1 a = false

section agree
variable {S0 S1 : String → Bool} {mX mR : List String} {uX uR : String → List String}

/-- of two blocks with different marks, each agrees by itself: a mark of one lies inside no node of the other -/
theorem Agree.split (h : Agree S0 S1 (mX ++ mR) (fun a => uX a ++ uR a)) (hd : ∀ a ∈ mX, ∀ b ∈ mR, a ≠ b)
    (hX : ∀ a, (uX a).Sublist mX) (hR : ∀ a, (uR a).Sublist mR) : Agree S0 S1 mX uX ∧ Agree S0 S1 mR uR :=
  ⟨fun g hg => (h g (List.mem_append_left _ hg)).imp id fun ⟨a, ha, h2⟩ =>
      ⟨a, (List.mem_append.mp ha).resolve_right (fun hr => hd g hg g ((hR a).subset hr) rfl), h2⟩,
    fun g hg => (h g (List.mem_append_right _ hg)).imp id fun ⟨a, ha, h2⟩ =>
      ⟨a, (List.mem_append.mp ha).resolve_left (fun hl => hd g ((hX a).subset hl) g hg rfl), h2⟩⟩

/-- a marked node is inside nothing of its own block, which agrees by itself if the node is kept -/
theorem Agree.own {dg : String} (h : Agree S0 S1 (dg :: mX) (fun a => if dg = a then mX else uX a)) (hdg : dg ∉ mX)
    (hX : ∀ a, (uX a).Sublist mX) : S1 dg = S0 dg ∧ (S0 dg = true → Agree S0 S1 mX uX) :=
  ⟨(h dg List.mem_cons_self).elim id fun ⟨a, ha, _⟩ => by
      by_cases hd : dg = a
      · exact absurd (by simpa [hd] using ha) hdg
      · exact absurd ((hX a).subset (by simpa [hd] using ha)) hdg,
    fun hs g hg => (h g (List.mem_cons_of_mem _ hg)).imp id fun ⟨a, ha, h2⟩ => by
      by_cases hd : dg = a
      · rw [← hd, hs] at h2; exact absurd h2.1 (by simp)
      · exact ⟨a, by simpa [hd] using ha, h2⟩⟩

end agree

mutual
theorem MJ.project_inside (S0 S1 : String → Bool) : (T : MJ) → T.allMarks.Nodup →
    (∀ g ∈ T.allMarks, S1 g = S0 g ∨ ∃ a, g ∈ T.under a ∧ S0 a = false ∧ S1 a = false) →
    T.project S1 = T.project S0
  | .leaf _, _, _ => rfl
  | .arr xs, nd, h => congrArg J.arr (MElems.project_inside S0 S1 xs nd h)
  | .obj ms _, nd, h => congrArg J.obj (MMems.project_inside S0 S1 ms nd h)
theorem MElems.project_inside (S0 S1 : String → Bool) : (xs : MElems) → xs.allMarks.Nodup →
    (∀ g ∈ xs.allMarks, S1 g = S0 g ∨ ∃ a, g ∈ xs.under a ∧ S0 a = false ∧ S1 a = false) →
    xs.project S1 = xs.project S0
  | .nil, _, _ => rfl
  | .clear x r, nd, h => by
    have ⟨nx, nr, d⟩ := List.nodup_append.mp nd
    have ⟨hx, hr⟩ := Agree.split h d (MJ.under_sub · x) (MElems.under_sub · r)
    simp [MJ.project_inside S0 S1 x nx hx, MElems.project_inside S0 S1 r nr hr]
  | .marked dg x r, nd, h => by
    have ⟨nx, nr, d⟩ := (List.nodup_append (l₁ := dg :: x.allMarks)).mp nd
    have ⟨hdg, nx⟩ := List.nodup_cons.mp nx
    have ⟨hx, hr⟩ := Agree.split (mX := dg :: x.allMarks) h d (sub_own dg (MJ.under_sub · x)) (MElems.under_sub · r)
    have ⟨hdg, hx⟩ := hx.own hdg (MJ.under_sub · x)
    have ihr := MElems.project_inside S0 S1 r nr hr
    cases hs : S0 dg with
    | false => simp [hdg, hs, ihr]
    | true => simp [hdg, hs, ihr, MJ.project_inside S0 S1 x nx (hx hs)]
  | .decoy _ r, nd, h => MElems.project_inside S0 S1 r nd h
theorem MMems.project_inside (S0 S1 : String → Bool) : (ms : MMems) → ms.allMarks.Nodup →
    (∀ g ∈ ms.allMarks, S1 g = S0 g ∨ ∃ a, g ∈ ms.under a ∧ S0 a = false ∧ S1 a = false) →
    ms.project S1 = ms.project S0
  | .nil, _, _ => rfl
  | .clear k x r, nd, h => by
    have ⟨nx, nr, d⟩ := List.nodup_append.mp nd
    have ⟨hx, hr⟩ := Agree.split h d (MJ.under_sub · x) (MMems.under_sub · r)
    simp [MJ.project_inside S0 S1 x nx hx, MMems.project_inside S0 S1 r nr hr]
  | .marked k dg x r, nd, h => by
    have ⟨nx, nr, d⟩ := (List.nodup_append (l₁ := dg :: x.allMarks)).mp nd
    have ⟨hdg, nx⟩ := List.nodup_cons.mp nx
    have ⟨hx, hr⟩ := Agree.split (mX := dg :: x.allMarks) h d (sub_own dg (MJ.under_sub · x)) (MMems.under_sub · r)
    have ⟨hdg, hx⟩ := hx.own hdg (MJ.under_sub · x)
    have ihr := MMems.project_inside S0 S1 r nr hr
    cases hs : S0 dg with
    | false => simp [hdg, hs, ihr]
    | true => simp [hdg, hs, ihr, MJ.project_inside S0 S1 x nx (hx hs)]
end

end Impl
