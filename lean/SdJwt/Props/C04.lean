import SdJwt.Lemmas.Policy
import SdJwt.Impl.Flows
import SdJwt.Impl.Header
import SdJwt.Lemmas.First
/-!
# C04 — only the exact issuer-signed JWT, the right key and the configured algorithm verify  (partial)

Statement: for every supported signature algorithm, holder- and verifier-side verification succeed
for, and only for, the byte-exact issuer-signed JWT, the matching key and the configured algorithm.

What is proved: the decision logic around the signature primitive. `C04_accept_iff`: `decode`
accepts iff the header names exactly the configured algorithm, the key family admits it, the
signature primitive accepts (key, alg, signing input, signature) and the claims policy holds.
`C04_alg_table_*`: the two hand-written 13-row algorithm tables are the identity on names (the
table is the quantifier, decided completely). `C04_first_*`: holder and verifier return an error,
whatever the disclosures, when `decode` fails.

Partial: that the primitive accepts only the genuine signature (unforgeability, byte-exactness)
is a property of RustCrypto, exercised by the correspondence run (13×13×12 matrix, all single
character / bit mutations), not proved.
-/
open Impl Assoc

theorem C04_alg_table_validation : ∀ a ∈ Alg.all, (toJwtAlgV a).name = a.name :=
  fun a _ => by cases a <;> rfl

theorem C04_alg_table_header : ∀ a ∈ Alg.all, (toJwtAlgH a).name = a.name :=
  fun a _ => by cases a <;> rfl

/-- `Alg.all` really lists every algorithm, so the two tables are covered completely -/
theorem C04_alg_all (a : Alg) : a ∈ Alg.all := by cases a <;> decide

/-- the tables are injective: no two configured algorithms map to the same library algorithm -/
theorem C04_alg_table_injective (a b : Alg) (h : toJwtAlgV a = toJwtAlgV b) : a = b := by
  -- looking the image up in `Alg.all` gives the algorithm back: 13 evaluations instead of 169 pairs
  have inv : ∀ c, Alg.all.find? (toJwtAlgV · = toJwtAlgV c) = some c := by
    intro c; cases c <;> decide
  exact Option.some.inj ((inv a).symm.trans (h ▸ inv b))

/-- `decode` accepts iff the header names exactly the configured algorithm, the key family admits
it, the signature primitive accepts, and the claims policy holds (`Holds`, see C11) -/
theorem C04_accept_iff (v : Validation) (fam : KeyFam) (hdrAlg : JwtAlg) (sigOk : Bool)
    (claims : List (String × J)) (now : Nat) (hno : NoOverflow v claims) :
    decodeDecision v fam hdrAlg sigOk (.obj claims) now = .ok () ↔
      hdrAlg = toJwtAlgV v.alg ∧ famAllows fam hdrAlg = true ∧ sigOk = true ∧ Holds v claims now :=
  decodeDecision_ok_iff v fam hdrAlg sigOk claims now hno

/-- a header naming any algorithm other than the configured one is refused, whatever the key and
the signature -/
theorem C04_other_alg_rejected (v : Validation) (fam : KeyFam) (hdrAlg : JwtAlg) (sigOk : Bool)
    (payload : J) (now : Nat) (h : hdrAlg ≠ toJwtAlgV v.alg) :
    decodeDecision v fam hdrAlg sigOk payload now = .err .jwt :=
  decodeDecision_gate v fam hdrAlg sigOk payload now (fun hh => h hh.1)

/-- a key of another family is refused, whatever the signature primitive says -/
theorem C04_other_family_rejected (v : Validation) (fam : KeyFam) (hdrAlg : JwtAlg) (sigOk : Bool)
    (payload : J) (now : Nat) (h : famAllows fam hdrAlg = false) :
    decodeDecision v fam hdrAlg sigOk payload now = .err .jwt :=
  decodeDecision_gate v fam hdrAlg sigOk payload now (fun hh => by simp [h] at hh)

/-- an HMAC secret (also: RSA/EC public-key bytes used as one) never verifies an RS/PS/ES token,
and an RSA or EC key never verifies an HS token -/
theorem C04_no_family_confusion :
    (∀ a, famAllows .secret a = true → a = .HS256 ∨ a = .HS384 ∨ a = .HS512) ∧
    (∀ a, famAllows .rsa a = true → a ≠ .HS256 ∧ a ≠ .HS384 ∧ a ≠ .HS512) ∧
    (∀ a, famAllows .ec a = true → a ≠ .HS256 ∧ a ≠ .HS384 ∧ a ≠ .HS512) := by
  refine ⟨?_, ?_, ?_⟩ <;> intro a <;> cases a <;> decide

/-- a signature the primitive does not accept is refused -/
theorem C04_bad_signature_rejected (v : Validation) (fam : KeyFam) (hdrAlg : JwtAlg)
    (payload : J) (now : Nat) :
    decodeDecision v fam hdrAlg false payload now = .err .jwt :=
  decodeDecision_gate v fam hdrAlg false payload now (fun hh => by simp at hh)

/-- holder side: when `decode` of the first `~`-segment fails, `Holder::verify` fails, whatever
disclosures follow — the disclosures are not touched -/
theorem C04_first_holder (rt : Rt) (tok : String)
    (h : ∀ jwt, ∃ e, rt.jwtDecode jwt = .err e) : ∃ e, Holder.verify rt tok = .err e := by
  obtain ⟨e, he⟩ := holder_verifyRaw_err rt tok h
  exact ⟨e, by simp [Holder.verify, he]⟩

/-- verifier side, same statement -/
theorem C04_first_verifier (rt : Rt) (tok : String) (policy : Bool)
    (h : ∀ jwt, ∃ e, rt.jwtDecode jwt = .err e) : ∃ e, Verifier.verify rt tok policy = .err e := by
  obtain ⟨e, he⟩ := verifier_verifyRaw_err rt tok policy h
  exact ⟨e, by simp [Verifier.verify, he]⟩
