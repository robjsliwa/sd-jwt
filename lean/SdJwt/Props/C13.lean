import SdJwt.Impl.Issuer
import SdJwt.Lemmas.IssuerL
import SdJwt.Lemmas.CodecL
import SdJwt.Lemmas.SdOrderInv
import SdJwt.Props.C01
import SdJwt.Lemmas.Shuffle
import SdJwt.Lemmas.IssueShuffled
import SdJwt.Lemmas.SdOrderChild
/-!
# C13 — salts, digests and decoys give no handle for linking or counting claims  (partial)

Statement: every disclosure carries its own fresh salt of at least 128 bits, so digests never
repeat; decoys come from a space too large to enumerate, number between 1 and the maximum, never
coincide with real digests and look like them; the order of digests in every digest list is
independent of the order of the claims they hide.

The truth of this property lives in the CSPRNG; the run observes it over long histories with the
property's own numbers. What the model can carry, with randomness as an explicit argument:
every disclosure gets its own draw (`C13_one_draw_per_path`); distinct draws give pairwise distinct
digests even for identical names and values (`C13_distinct`); composing with a fixed reordering
is a bijection on orders, so a uniformly shuffled list has the same distribution whatever the
marking order was (`C13_order_transfer`).
-/
open Impl Assoc

/-- the `i`-th listed path is hidden with the digest drawn for index `i`, and no other index:
the digests recorded for the disclosures are `mk start …, mk (start+1) …, …` in path order -/
theorem C13_one_draw_per_path (mk : Nat → Option String → J → String) :
    (start : Nat) → (c : J) → (ps : List String) → (c' : J) → (ds : List DiscSrc) →
    applyPaths mk start c ps = .ok (c', ds) →
    ds.length = ps.length ∧
    ∀ k (hk : k < ds.length), ds[k].digest = mk (start + k) ds[k].key ds[k].value
  | _, _, [], _, _, h => by
    simp [applyPaths] at h
    obtain ⟨_, rfl⟩ := h
    simp
  | start, c, p :: r, c', ds, h => by
    unfold applyPaths at h
    cases hb : buildDisclosure (mk start) c p with
    | panic => simp [hb] at h
    | err e => simp [hb] at h
    | ok x =>
      obtain ⟨c1, d⟩ := x
      simp only [hb] at h
      cases ha : applyPaths mk (start+1) c1 r with
      | panic => simp [ha] at h
      | err e => simp [ha] at h
      | ok y =>
        obtain ⟨c2, ds2⟩ := y
        simp only [ha] at h
        cases h
        obtain ⟨hl, hrest⟩ := C13_one_draw_per_path mk (start+1) c1 r _ _ ha
        refine ⟨by simp [hl], ?_⟩
        intro k hk
        cases k with
        | zero => simpa using buildDisclosure_digest (mk start) c c1 p d hb
        | succ k' =>
          have hk' : k' < ds2.length := by simpa using hk
          have := hrest k' hk'
          simpa [Nat.add_assoc, Nat.add_comm 1 k'] using this

/-- distinct draws ⇒ pairwise distinct digests, even for identical claim names and values and
across repeated issuance: if the digest function separates indices (fresh salt per disclosure,
collision-free hash), the digests of one issuance are pairwise distinct -/
theorem C13_distinct (mk : Nat → Option String → J → String)
    (hsep : ∀ i j n v n' v', i ≠ j → mk i n v ≠ mk j n' v') :
    (start : Nat) → (c : J) → (ps : List String) → (c' : J) → (ds : List DiscSrc) →
    applyPaths mk start c ps = .ok (c', ds) → (ds.map (·.digest)).Nodup := by
  intro start c ps c' ds h
  obtain ⟨_, hall⟩ := C13_one_draw_per_path mk start c ps c' ds h
  rw [List.Nodup, List.pairwise_iff_getElem]
  intro i j hi hj hij
  simp only [List.length_map] at hi hj
  simp only [List.getElem_map, hall i hi, hall j hj]
  exact hsep _ _ _ _ _ _ (by omega)

/-- order transfer: composing with a fixed permutation is injective on lists of positions — so if
the shuffle's output is uniformly distributed, it is uniformly distributed for every marking
order (the marking order only pre-composes a fixed reordering) -/
theorem C13_order_transfer {α : Type} (σ : List α → List α) (τ : List α → List α)
    (hτ : ∀ l, τ (σ l) = l) : Function.Injective σ := by
  intro a b h
  have := congrArg τ h
  simpa [hτ] using this



/-- **a salt carries every bit the generator returned**: `generate_salt(n)` is the base64url of the
`n` random bytes, decoding the salt gives those bytes back, and different bytes give different
salts — 16 bytes are 128 bits, in 22 characters -/
theorem C13_salt_carries_all_bits (rnd rnd' : List UInt8) :
    B64.dec (saltOf rnd).toList = some rnd ∧ (saltOf rnd = saltOf rnd' → rnd = rnd') ∧
    (saltOf rnd).toList.length = (4 * rnd.length + 2) / 3 := by
  refine ⟨by simp [saltOf, String.toList_ofList, B64.dec_enc], saltOf_injective rnd rnd', ?_⟩
  simp [saltOf, String.toList_ofList, B64.enc_length]

/-- **digests repeat only if the generator repeats a salt or SHA-2 collides**: if the digests of
two disclosures coincide — in one issuance or across issuances, for identical or different claims —
then the generator returned the same salt bytes for both (and name and value agree), or two
different byte strings with the same hash have been found -/
theorem C13_repeat_is_collision (c : Codec) (hc : ∀ j, c.parse (c.render j) = some j) (alg : String)
    (rnd rnd' : List UInt8) (k k' : Option String) (v v' : J)
    (h : c.hash alg (c.discString (saltOf rnd) k v) = c.hash alg (c.discString (saltOf rnd') k' v')) :
    (rnd = rnd' ∧ k = k' ∧ v = v') ∨ ∃ x y, x ≠ y ∧ c.sha alg x = c.sha alg y := by
  rcases digest_repeat c hc alg _ _ k k' v v' h with ⟨h1, h2, h3⟩ | h
  · exact .inl ⟨saltOf_injective _ _ h1, h2, h3⟩
  · exact .inr h

/-- **decoys have the form of real digests**: both are the base64url of a hash value, so under
`sha-256` (32 bytes) both are 43 characters of the base64url alphabet, whatever was hashed -/
theorem C13_decoy_same_form (c : Codec) (hlen : ∀ x, (c.sha "sha-256" x).length = 32)
    (rnd : List UInt8) (s : String) :
    (c.decoy rnd).toList.length = 43 ∧ (c.hash "sha-256" s).toList.length = 43 ∧
    (∀ ch ∈ (c.decoy rnd).toList, ∃ n, B64.val ch = some n) ∧
    (∀ ch ∈ (c.hash "sha-256" s).toList, ∃ n, B64.val ch = some n) := by
  simp only [Codec.decoy, Codec.hash, String.toList_ofList, B64.enc_length, hlen]
  exact ⟨trivial, trivial, B64.enc_alphabet _, B64.enc_alphabet _⟩

/-- a decoy coincides with a real digest only if SHA-2 collides or a disclosure string equals a
32-byte salt string (43 characters; a disclosure string is longer than that as soon as its JSON text
has more than 32 bytes) -/
theorem C13_decoy_vs_digest (c : Codec) (rnd : List UInt8) (s : String)
    (h : c.decoy rnd = c.hash "sha-256" s) :
    s = saltOf rnd ∨ ∃ x y, x ≠ y ∧ c.sha "sha-256" x = c.sha "sha-256" y := by
  simp only [Codec.decoy, Codec.hash] at h
  have h1 := B64.enc_injective _ _ (String.ofList_inj.mp h)
  by_cases he : utf8 (saltOf rnd) = utf8 s
  · exact .inl (utf8_injective _ _ he).symm
  · exact .inr ⟨_, _, he, h1⟩


/-- **the order of the digests in the digest lists of the signed claims carries nothing**: let `T'` be the
issued tree `T` with every `_sd` list that is visible in the payload permuted in any way (what the
issuer's final `shuffle_digests` does: `T.sdPermVis T'`). Then `T'` is conformant with pairwise distinct
digests like `T`; it has the same disclosures, the same hidden nodes, the same original claims and the
same projection on every selection; and the holder / verifier, given the payload of `T'` and the token's
disclosures (all of them, in any order), accept and return exactly the original claims — whatever the
permutation was. So the order is free to be drawn at random, and nothing a recipient computes depends
on it. -/
theorem C13_visible_order_irrelevant (env : Env) (T T' : MJ) (strs : List String)
    (hperm : T.sdPermVis T') (inv : TreeInv T)
    (hdec : ∀ s ∈ strs, ∃ d, fromBase64 env s = .ok d)
    (hnd : (strs.map env.hash).Nodup)
    (hacc : ∀ s ∈ strs, ∀ d, fromBase64 env s = .ok d →
      DOk T d ∧ ∃ x, (d.digest, x) ∈ T.hiddenE ∧ d.value = x.payload)
    (hall : ∀ g ∈ T.allMarks, ∃ s ∈ strs, env.hash s = g) :
    TreeInv T' ∧ T'.discs = T.discs ∧ T'.plain = T.plain ∧ (∀ S, T'.project S = T.project S) ∧
    ∃ c ps, restoreAll env T'.payload strs = .ok (c, ps) ∧ removeAll c = T.plain := by
  have inv' := TreeInv.sdPermVis hperm inv
  have hp : T'.plain = T.plain := MJ.project_sdPermVis _ T T' hperm
  refine ⟨inv', MJ.discs_sdPermVis T T' hperm, hp, fun S => MJ.project_sdPermVis S T T' hperm, ?_⟩
  obtain ⟨c, ps, h1, h2⟩ := C01_roundtrip_claims env T' strs inv' hdec hnd
    (fun s hs d hf => by
      obtain ⟨ok, x, hx, hv⟩ := hacc s hs d hf
      exact ⟨DOk.sdPermVis hperm ok, x, by rw [MJ.hiddenE_sdPermVis T T' hperm]; exact hx, hv⟩)
    (by rw [MJ.allMarks_sdPermVis T T' hperm]; exact hall)
  exact ⟨c, ps, h1, by rw [h2, hp]⟩

/-- non-vacuity: a tree with two hidden members whose digest list is written in the other order -/
example : (MJ.obj (.marked "a" "d1" (.leaf (.num 1 0)) (.marked "b" "d2" (.leaf (.num 2 0)) .nil)) (some ["d1", "d2", "decoy"])).sdPermVis
    (MJ.obj (.marked "a" "d1" (.leaf (.num 1 0)) (.marked "b" "d2" (.leaf (.num 2 0)) .nil)) (some ["decoy", "d2", "d1"])) := by
  refine ⟨_, _, rfl, ⟨_, rfl, _, rfl, rfl⟩, ?_⟩
  show List.Perm ["d1", "d2", "decoy"] ["decoy", "d2", "d1"]
  decide


/-- **the issuer's `shuffle_digests` on the claims it signs changes nothing a recipient computes.**
`shuffleJ σ` is `shuffle_digests` with the random permutation as a parameter (`Lemmas/Shuffle.lean`): every
`_sd` array replaced by `σ` of it, every member value and array element visited. For every conformant issued
tree `T` and every `σ` that returns a permutation of its argument, the shuffled payload is the payload of a tree
`T'` that differs from `T` only in the order of the visible digest lists (`MJ.shuffle_payload`), and so
(`C13_visible_order_irrelevant`) the holder / verifier, given the shuffled payload and the token's
disclosures in any order, accept and return exactly the original claims. The drawn order is irrelevant to
every recipient — which is what leaves the issuer free to draw it uniformly at random. -/
theorem C13_shuffle_changes_nothing (env : Env) (σ : List J → List J) (hσ : ∀ l, (σ l).Perm l)
    (T : MJ) (strs : List String) (inv : TreeInv T)
    (hdec : ∀ s ∈ strs, ∃ d, fromBase64 env s = .ok d)
    (hnd : (strs.map env.hash).Nodup)
    (hacc : ∀ s ∈ strs, ∀ d, fromBase64 env s = .ok d →
      DOk T d ∧ ∃ x, (d.digest, x) ∈ T.hiddenE ∧ d.value = x.payload)
    (hall : ∀ g ∈ T.allMarks, ∃ s ∈ strs, env.hash s = g) :
    ∃ c ps, restoreAll env (shuffleJ σ T.payload) strs = .ok (c, ps) ∧ removeAll c = T.plain := by
  obtain ⟨T', hperm, hpay⟩ := MJ.shuffle_payload σ hσ T inv.wf
  obtain ⟨_, _, _, _, c, ps, h1, h2⟩ := C13_visible_order_irrelevant env T T' strs hperm inv hdec hnd hacc hall
  exact ⟨c, ps, by rw [hpay]; exact h1, h2⟩

/-- `shuffle_digests` reaches a digest list below an object that has no `_sd` of its own and inside arrays
(the reversal stands for any permutation) -/
example : shuffleJ List.reverse (.obj [("a", .obj [("_sd", .arr [.str "x", .str "y"])]),
      ("l", .arr [.obj [("_sd", .arr [.str "p", .str "q", .str "r"])]])]) =
    .obj [("a", .obj [("_sd", .arr [.str "y", .str "x"])]),
      ("l", .arr [.obj [("_sd", .arr [.str "r", .str "q", .str "p"])]])] := by
  simp [shuffleJ, shuffleMems, shuffleElems]


/-- **the issuer with ALL its shuffles.** The crate shuffles the digest lists of a value right before hiding
it and the lists of the signed claims at the end; `IssueRun` is issuing at tree level with an arbitrary
permutation of the visible digest lists before every marking step and after the last one. Starting from
claims without digests: whatever permutations are drawn, the issued tree is conformant, stands for the same
claims, and the holder — given its payload and all of the issuer's disclosures in any order — returns
exactly those claims. Randomising the order of every digest list, top-level and nested, is invisible to
every recipient. -/
theorem C13_shuffled_issuance_round_trip (env : Env) (mk : Nat → Option String → J → String)
    (addr : List (List String × String)) (T Tn : MJ) (ds : List SDisc) (inv : TreeInv T)
    (hclean : T.deepStale = []) (hnomarks : T.allMarks = [])
    (h : IssueRun mk 0 addr T Tn ds) (strs : List String)
    (hstr : ∀ s ∈ strs, ∃ e ∈ ds, fromBase64 env s = .ok ⟨s, e.digest, e.key, e.value⟩)
    (hnd : (strs.map env.hash).Nodup)
    (hall : ∀ e ∈ ds, ∃ s ∈ strs, env.hash s = e.digest) :
    TreeInv Tn ∧ ∃ c ps, restoreAll env Tn.payload strs = .ok (c, ps) ∧ removeAll c = T.plain := by
  obtain ⟨invn, pln, _, amn, _⟩ := issueRun_inv mk addr 0 T Tn ds inv h
  obtain ⟨c, ps, h1, h2⟩ := issueRun_restore env mk addr T Tn ds inv hclean h strs hstr hnd
  refine ⟨invn, c, ps, h1, ?_⟩
  rw [h2, ← pln]
  apply MJ.project_congr
  intro g hg
  have hg' : g ∈ ds.map (·.digest) := by
    have := amn.subset hg
    simpa [hnomarks] using this
  obtain ⟨e, he, rfl⟩ := List.mem_map.mp hg'
  obtain ⟨s, hs, hh⟩ := hall e he
  show (strs.any fun s => decide (env.hash s = e.digest)) = true
  simp only [List.any_eq_true, decide_eq_true_eq]
  exact ⟨s, hs, hh⟩


/-- **what `build_disclosure` does before it hides a value is a step of `IssueRun`**: the value `x` at the
address `toks` is still in the clear; `shuffle_digests` on it (`shuffleJ σ`, any `σ` returning permutations)
gives the payload of a value `x'` that differs from `x` only in the order of its visible digest lists, and
the working tree with `x'` in the place of `x` differs from the working tree only in the order of visible
digest lists — exactly the permutation step `IssueRun` allows before a marking step. -/
theorem C13_hide_time_shuffle_is_a_run_step (σ : List J → List J) (hσ : ∀ l, (σ l).Perm l)
    (toks : List String) (T x : MJ) (hget : MJ.getDeep pI toks T = some x) (hwf : x.WF) :
    ∃ x', shuffleJ σ x.payload = x'.payload ∧ T.sdPermVis (MJ.replaceDeep pI toks T x') := by
  obtain ⟨x', hp, he⟩ := MJ.shuffle_payload σ hσ x hwf
  exact ⟨x', he, MJ.sdPermVis_replaceDeep pI x x' hp toks T hget⟩

/-- the same for every SELECTION of the disclosures (the verifier's side, C02 / C03): the shuffled payload with
any repetition-free, ancestor-closed or not, selection of the token's own disclosures is accepted and strips to
the same projection of the original claims as the unshuffled one -/
theorem C13_shuffle_changes_no_selection (env : Env) (σ : List J → List J) (hσ : ∀ l, (σ l).Perm l)
    (T : MJ) (strs : List String) (inv : TreeInv T)
    (hdec : ∀ s ∈ strs, ∃ d, fromBase64 env s = .ok d)
    (hnd : (strs.map env.hash).Nodup)
    (hacc : ∀ s ∈ strs, ∀ d, fromBase64 env s = .ok d →
      DOk T d ∧ ∃ x, (d.digest, x) ∈ T.hiddenE ∧ d.value = x.payload) :
    ∃ c ps, restoreAll env (shuffleJ σ T.payload) strs = .ok (c, ps) ∧
      removeAll c = T.project (fun h => strs.any (fun s => env.hash s = h)) := by
  obtain ⟨T', hperm, hpay⟩ := MJ.shuffle_payload σ hσ T inv.wf
  obtain ⟨c, ps, h1, h2⟩ := restoreAll_complete env T' strs (TreeInv.sdPermVis hperm inv) hdec hnd
    (fun s hs d hf => by
      obtain ⟨ok, x, hx, hv⟩ := hacc s hs d hf
      exact ⟨DOk.sdPermVis hperm ok, x, by rw [MJ.hiddenE_sdPermVis T T' hperm]; exact hx, hv⟩)
  exact ⟨c, ps, by rw [hpay]; exact h1, by rw [h2]; exact MJ.project_sdPermVis _ T T' hperm⟩
