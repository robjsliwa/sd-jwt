import SdJwt.Lemmas.KB
import SdJwt.Lemmas.ObjectsL
/-!
# C09 — the holder's key-binding JWT commits to exactly the presentation it is attached to  (partial)

Statement: the KB-JWT is typed kb+jwt, carries the supplied algorithm and audience, the current
time, a fresh nonce, and a hash — under the SD-JWT's declared digest algorithm — of exactly the
byte string that precedes it (issuer JWT, selected disclosures, each followed by `~`). Building
again yields the same disclosures, a different nonce, and again a valid commitment.

Proved over the model (nonce and clock are parameters): content of the KB-JWT, independence of the
disclosure part from nonce/clock, and that the verifier's `drop_kb` recomputes exactly the hashed
string. Partial: the CSPRNG (nonce freshness) and the clock are observed by the run, not proved;
the signature is RustCrypto's.
-/
open Impl

/-- content of the key-binding JWT, for every bound token, redaction list, audience, algorithm,
nonce and clock value -/
theorem C09_commit (rt : Rt) (h : HolderState) (red : List String) (p : KbParams) (nonce : String)
    (now : Int) (pre : String) (spec : KbSpec)
    (hb : Holder.build rt h red (some p) nonce now = .ok (pre, some spec)) :
    spec.typ = "kb+jwt" ∧ spec.alg = p.alg ∧ spec.aud = p.aud ∧ spec.nonce = nonce ∧ spec.iat = now ∧
    pre = assemble h.sdJwt (keptDisclosures h.paths red) ∧
    ∃ alg, spec.sdHash = rt.hash alg pre ∧
      ∃ claims seg, getJwtPart h.sdJwt.toList .claims = .ok seg ∧ rt.decodeClaims (strOf seg) = some claims ∧
        parseHashAlg ((jidx claims "_sd_alg").asStr.getD "") = .ok alg := by
  unfold Holder.build at hb
  cases hseg : getJwtPart h.sdJwt.toList .claims with
  | panic => simp [hseg] at hb
  | err e => simp [hseg] at hb
  | ok seg =>
    cases hclaims : rt.decodeClaims (strOf seg) with
    | none => simp [hseg, hclaims] at hb
    | some claims =>
      simp only [hseg, hclaims] at hb
      by_cases hbound : (jget? claims "cnf").isSome = true
      · cases halg : parseHashAlg ((jidx claims "_sd_alg").asStr.getD "") with
        | panic => simp [hbound, halg] at hb
        | err e => simp [hbound, halg] at hb
        | ok alg =>
          simp [hbound, halg] at hb
          obtain ⟨rfl, rfl⟩ := hb
          exact ⟨rfl, rfl, rfl, rfl, rfl, rfl, alg, rfl, claims, seg, rfl, hclaims, halg⟩
      · simp [hbound] at hb

/-- the disclosure part of a presentation is a function of the holder state and the redaction
list only: it is the same for every nonce and every clock value (repeated `build()`) -/
theorem C09_repeat (rt : Rt) (h : HolderState) (red : List String) (kb : Option KbParams)
    (n1 n2 : String) (t1 t2 : Int) (pre1 pre2 : String) (s1 s2 : Option KbSpec)
    (h1 : Holder.build rt h red kb n1 t1 = .ok (pre1, s1))
    (h2 : Holder.build rt h red kb n2 t2 = .ok (pre2, s2)) :
    pre1 = pre2 ∧ pre1 = assemble h.sdJwt (keptDisclosures h.paths red) := by
  have key : ∀ (n : String) (t : Int) (pre : String) (s : Option KbSpec),
      Holder.build rt h red kb n t = .ok (pre, s) → pre = assemble h.sdJwt (keptDisclosures h.paths red) := by
    intro n t pre s hb
    unfold Holder.build at hb
    cases hseg : getJwtPart h.sdJwt.toList .claims with
    | panic => simp [hseg] at hb
    | err e => simp [hseg] at hb
    | ok seg =>
      cases hclaims : rt.decodeClaims (strOf seg) with
      | none => simp [hseg, hclaims] at hb
      | some claims =>
        simp only [hseg, hclaims] at hb
        by_cases hbound : (jget? claims "cnf").isSome = true
        · cases kb with
          | none => simp [hbound] at hb
          | some p =>
            cases halg : parseHashAlg ((jidx claims "_sd_alg").asStr.getD "") with
            | panic => simp [hbound, halg] at hb
            | err e => simp [hbound, halg] at hb
            | ok alg =>
              simp [hbound, halg] at hb
              exact hb.1.symm
        · simp [hbound] at hb
          exact hb.1.symm
  exact ⟨(key _ _ _ _ h1).trans (key _ _ _ _ h2).symm, key _ _ _ _ h1⟩

/-- what the verifier hashes (`drop_kb` of the whole presentation) is exactly the string the
holder hashed, for every `~`-free key-binding JWT appended to it -/
theorem C09_dropKb_recovers (jwt : String) (ds : List String) (kb : List Char) (hkb : '~' ∉ kb) :
    dropKb ((assemble jwt ds).toList ++ kb) = (assemble jwt ds).toList := by
  rw [toList_assemble]
  have : (jwt.toList ++ (ds.map (fun d => '~' :: d.toList)).flatten ++ ['~']) ++ kb
      = (jwt.toList ++ (ds.map (fun d => '~' :: d.toList)).flatten) ++ '~' :: kb := by simp
  rw [this, dropKb_append _ _ hkb]

/-- a compact JWT (base64url segments joined by `.`) contains no `~` — the hypothesis of
`C09_dropKb_recovers` is met by every KB-JWT; here for a concrete one -/
example : '~' ∉ "eyJhbGciOiJSUzI1NiJ9.eyJhdWQiOiJ4In0.c2ln".toList := by
  rw [String.toList_ofList]; decide


/-! ## The holder as an object: histories -/

/-- **what `build` returns depends on the calls made so far only through the set of redacted paths
and the last `key_binding`**: after any history of `redact` / `key_binding` / `build` calls the
holder holds the token it was made from, every redacted path, and the parameters of the last
`key_binding` call; earlier `build` calls leave no trace; and two histories that redact the same
set of paths (in any order, with repetitions, before or after `key_binding`) keep the same
disclosures — hence the key-binding JWT, whose `sd_hash` is computed by `build` over what is kept
*then* (`C09_commit`), commits to the presentation it is attached to whatever the order of calls -/
theorem C09_build_history (rt : Rt) (h : HolderObj) (ops ops' : List HolderOp) (nonce : String) (now : Int)
    (hset : ∀ p, p ∈ h.redacted ++ redactsOf ops ↔ p ∈ h.redacted ++ redactsOf ops')
    (hkb : (lastKb ops).orElse (fun _ => h.kb) = (lastKb ops').orElse (fun _ => h.kb)) :
    (h.run ops) = h.run (ops.filter (fun o => !o.isBuild)) ∧
    (h.run ops).observe rt nonce now = (h.run ops').observe rt nonce now := by
  refine ⟨HolderObj.run_drop_builds ops h, ?_⟩
  obtain ⟨a1, a2, a3⟩ := HolderObj.run_state ops h
  obtain ⟨b1, b2, b3⟩ := HolderObj.run_state ops' h
  simp only [HolderObj.observe, Holder.build, a1, b1, a2, b2, a3, b3, hkb,
    keptDisclosures_set h.st.paths _ _ hset]
