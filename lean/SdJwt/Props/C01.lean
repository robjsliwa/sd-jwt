import SdJwt.Lemmas.Strip
import SdJwt.Lemmas.RestoreAll
import SdJwt.Lemmas.Complete
import SdJwt.Lemmas.MarkInv
import SdJwt.Lemmas.EndToEnd
import SdJwt.Lemmas.Example
import SdJwt.Lemmas.IssuedPaths
import SdJwt.Lemmas.Defined
import SdJwt.Lemmas.CodecL
import SdJwt.Lemmas.TextCodec
/-!
# C01 — issuance round trip returns exactly the original claims and their paths

Full statement (properties.jsonl): ∀ claims trees `C`, ∀ markings `M` (descendants first,
|M| ≥ 1), ∀ decoy settings, ∀ algorithms:
`Holder::verify(Issuer(C, M).encode()) = (header, C [+cnf], {(m, name m, value m) | m ∈ M})`,
with no `_sd`, `_sd_alg`, `...` left behind.

A pair (`C`, `M`) is a marked tree `T` with `C = T.plain`. The statement decomposes into
T-issue (the issuer's payload is `T.payload` and its disclosures are `T.discs`), T-restore (the
restorer turns `T.payload` plus the disclosures with digests in `S` into `T.hview S`) and the
stripping law below. See DESIGN.md §4.
-/
open Impl Spec Assoc

/-- Stripping the bookkeeping from what the holder has restored gives exactly the claims with
the undisclosed marked nodes absent — for every conformant tree and every set of disclosures. -/
theorem C01_strip (S : String → Bool) (T : MJ) (wf : T.WF) :
    removeAll (T.hview S) = T.project S :=
  MJ.removeAll_hview S T wf

/-- With every disclosure put back, stripping gives exactly the original claims. -/
theorem C01_strip_all (T : MJ) (wf : T.WF) :
    removeAll (T.hview (fun _ => true)) = T.plain :=
  MJ.removeAll_hview _ T wf

/-- non-vacuity: a conformant tree with a marked member, a marked array element and a nested
mark, and its original claims -/
example :
    let T : MJ := .obj (.marked "a" "g1" (.leaf (.num 1 0))
                    (.clear "n" (.arr (.marked "g2" (.obj (.marked "k" "g3" (.leaf .null) .nil) (some ["g3"]))
                       (.clear (.leaf (.str "y")) .nil))) .nil)) (some ["g1"])
    T.plain = .obj [("a", .num 1 0), ("n", .arr [.obj [("k", .null)], .str "y"])] := by
  rfl

/-- **Holder side of the round trip (T-restore).** For every conformant marked tree `T` — i.e.
every claims tree `C = T.plain` with every marking — and the list of all its disclosures in ANY
order: if the holder accepts, it returns exactly the original claims, no `_sd`, no placeholder. -/
theorem C01_restore_all (env : Env) (T : MJ) (strs : List String) (inv : TreeInv T)
    (hacc : ∀ s ∈ strs, ∀ d, fromBase64 env s = .ok d → DOk T d) (c : J) (ps : List PathEntry)
    (h : restoreAll env T.payload strs = .ok (c, ps))
    (hall : ∀ g ∈ T.allMarks, ∃ s ∈ strs, env.hash s = g) :
    removeAll c = T.plain := by
  rcases restoreAll_sound env T strs inv hacc with ⟨e, he⟩ | ⟨c', ps', h', hp⟩
  · rw [he] at h; cases h
  · rw [h'] at h; cases h
    rw [hp]
    apply MJ.project_congr
    intro g hg
    obtain ⟨s, hs, e⟩ := hall g hg
    show (strs.any fun s => decide (env.hash s = g)) = true
    simp only [List.any_eq_true, decide_eq_true_eq]
    exact ⟨s, hs, e⟩

/-- one walk of `restore_disclosure` over the payload with the disclosure of a visible marked
node puts exactly that node back, in place, and reports exactly its JSON pointer; with any other
acceptable disclosure it changes nothing and reports nothing (the step of T-restore) -/
theorem C01_walk (d : Disc) (T : MJ) (p : String) (wf : T.WF) (nd : T.vdigests.Nodup)
    (hs : d.digest ∉ T.stale) (hm : Match d T.topDiscs) :
    restoreOne d p T.payload =
      .ok ((T.revealTop d.digest).payload, decide (d.digest ∈ T.topMarks), T.tpaths d.digest p) :=
  MJ.step d T p wf nd hs hm

/-- **The holder accepts and returns exactly the original claims**: all disclosures of a
conformant tree, in any order (in particular the issuer's descendants-first order), restore to
`T.plain` — same members, same values, same array lengths and element order, no bookkeeping. -/
theorem C01_roundtrip_claims (env : Env) (T : MJ) (strs : List String) (inv : TreeInv T)
    (hdec : ∀ s ∈ strs, ∃ d, fromBase64 env s = .ok d)
    (hnd : (strs.map env.hash).Nodup)
    (hacc : ∀ s ∈ strs, ∀ d, fromBase64 env s = .ok d →
      DOk T d ∧ ∃ x, (d.digest, x) ∈ T.hiddenE ∧ d.value = x.payload)
    (hall : ∀ g ∈ T.allMarks, ∃ s ∈ strs, env.hash s = g) :
    ∃ c ps, restoreAll env T.payload strs = .ok (c, ps) ∧ removeAll c = T.plain := by
  obtain ⟨c, ps, h, _⟩ := restoreAll_complete env T strs inv hdec hnd hacc
  exact ⟨c, ps, h, C01_restore_all env T strs inv (fun s hs d hf => (hacc s hs d hf).1) c ps h hall⟩

/-- **C01, issuer and holder composed (T-issue ∘ T-restore ∘ strip).** For every conformant
claims tree `T` (in particular every plain claims tree: nothing marked), every list of path
strings, every digest function under which marking is defined (each path reaches a not yet hidden
node — nested before enclosing — and each digest is new), and the issuer's disclosures presented
as strings in ANY order: the issuer model's working copy is `Tn.payload`; the holder model accepts
it with those strings; and what it returns strips to exactly the original claims `T.plain`. -/
theorem C01_issue_then_hold (env : Env) (mk : Nat → Option String → J → String)
    (paths : List String) (addr : List (List String × String)) (T Tn : MJ) (ds : List SDisc)
    (inv : TreeInv T) (hclear : T.allMarks = []) (hp : ParsedAll paths addr)
    (h : markAll mk 0 addr T = some (Tn, ds)) (strs : List String)
    (hstr : ∀ s ∈ strs, ∃ e ∈ ds, fromBase64 env s = .ok ⟨s, e.digest, e.key, e.value⟩)
    (hnd : (strs.map env.hash).Nodup)
    (hall : ∀ e ∈ ds, ∃ s ∈ strs, env.hash s = e.digest) :
    ∃ c ps, applyPaths mk 0 T.payload paths = .ok (Tn.payload, ds.map toSrc) ∧
      restoreAll env Tn.payload strs = .ok (c, ps) ∧ removeAll c = T.plain := by
  obtain ⟨hissue, _, hplain⟩ := applyPaths_markAll mk paths addr 0 T Tn ds inv.wf hp h
  obtain ⟨c, ps, hr, hc⟩ := issue_restore env mk addr T Tn ds inv h strs hstr hnd
  refine ⟨c, ps, hissue, hr, ?_⟩
  rw [hc, ← hplain]
  apply MJ.project_congr
  intro g hg
  obtain ⟨_, _, pm, _, _⟩ := markAll_inv mk addr 0 T Tn ds inv h
  have : g ∈ ds.map (·.digest) := by simpa [hclear] using pm.subset hg
  obtain ⟨e, he, rfl⟩ := List.mem_map.mp this
  obtain ⟨s, hs, hh⟩ := hall e he
  show (strs.any fun s => decide (env.hash s = e.digest)) = true
  simp only [List.any_eq_true, decide_eq_true_eq]
  exact ⟨s, hs, hh⟩

/-- non-vacuity of `C01_issue_then_hold`: claims `{"a":1,"n":["x","y"]}`, paths `/n/1` then `/a`,
digest function "dg<i>", the identity as string hash, and the two disclosures presented in the
reverse order satisfy every hypothesis -/
example :
    let T : MJ := .obj (.clear "a" (.leaf (.num 1 0))
                    (.clear "n" (.arr (.clear (.leaf (.str "x")) (.clear (.leaf (.str "y")) .nil))) .nil)) none
    let mk : Nat → Option String → J → String := fun i _ _ => "dg" ++ toString i
    let env : Env := { hash := id, decodeDisc := fun s =>
      if s = "dg0" then some (.arr [.str "s0", .str "y"])
      else if s = "dg1" then some (.arr [.str "s1", .str "a", .num 1 0]) else none }
    let addr : List (List String × String) := [(["n"], "1"), ([], "a")]
    ∃ Tn ds, TreeInv T ∧ T.allMarks = [] ∧ ParsedAll ["/n/1", "/a"] addr ∧
      markAll mk 0 addr T = some (Tn, ds) ∧
      (∀ s ∈ ["dg1", "dg0"], ∃ e ∈ ds, fromBase64 env s = .ok ⟨s, e.digest, e.key, e.value⟩) ∧
      (["dg1", "dg0"].map env.hash).Nodup ∧ (∀ e ∈ ds, ∃ s ∈ ["dg1", "dg0"], env.hash s = e.digest) := by
  refine ⟨_, _, ⟨?_, ?_, ?_⟩, rfl, ?_, rfl, ?_, ?_, ?_⟩
  · simp [MJ.WF, MMems.WF, MElems.WF, MMems.keysGt, MMems.marks, J.scalar]
  · simp [MJ.digests, MMems.digests, MElems.digests]
  · simp [MJ.allMarks, MMems.allMarks, MElems.allMarks]
  · exact ⟨parsed_renderPath ["n"] "1", parsed_renderPath [] "a", trivial⟩
  · intro s hs
    simp only [List.mem_cons, List.not_mem_nil, or_false] at hs
    rcases hs with rfl | rfl
    · exact ⟨⟨"dg1", some "a", .num 1 0⟩, by simp; exact ⟨by decide, rfl⟩, by simp [fromBase64]⟩
    · exact ⟨⟨"dg0", none, .str "y"⟩, by simp; exact ⟨by decide, rfl⟩, by simp [fromBase64]⟩
  · decide
  · intro e he
    simp only [List.mem_cons, List.not_mem_nil, or_false] at he
    rcases he with rfl | rfl
    · exact ⟨"dg0", by simp, rfl⟩
    · exact ⟨"dg1", by simp, rfl⟩

/-- **C01, end to end in the model: `Holder::verify(Issuer(C, M).encode())`.**
For every claims object `C` (a conformant tree `obj ms` with no digests in it, not using the names
`_sd_alg` / `cnf`), every list of path strings under which marking is defined (|M| ≥ 1; each path
reaches a not yet hidden node, nested before enclosing, each digest new), every choice of decoy
digests (distinct, new to the tree) and optional holder key (a plain value): serialise the
issuer model's output as `jwt~d₁~…~dₙ~` with the disclosure strings in ANY order; assume of the
runtime only that the JWT library returns the header and the payload that were signed
(`hsig`), that each string decodes to the disclosure it was made from and hashes to its digest
(`hstr`), and that no segment contains `~`.  Then the holder model accepts and returns that
header and exactly the original claims — plus `cnf` for a bound token — with no `_sd`,
`_sd_alg` or placeholder left; and the reported path list is, up to order, exactly one entry per
marked node: its JSON pointer (`format_path`) paired with the decoded disclosure of that node
(`Tn.paths ""` lists (pointer, digest) of every marked node of the issued tree). -/
theorem C01_end_to_end (rt : Rt) (mk : Nat → Option String → J → String)
    (paths : List String) (addr : List (List String × String)) (ms : MMems) (Tn : MJ)
    (ds : List SDisc) (decoys : Option (List String)) (cnf : Option MJ) (jwt : String) (header : J)
    (strs : List String)
    (wf : (MJ.obj ms none).WF) (hplain : (MJ.obj ms none).digests = [])
    (hk1 : "_sd_alg" ∉ ms.keys) (hk2 : "cnf" ∉ ms.keys)
    (hp : ParsedAll paths addr) (h : markAll mk 0 addr (.obj ms none) = some (Tn, ds)) (hne : ds ≠ [])
    (hdec : ∀ l, decoys = some l → l.Nodup ∧ (∀ g ∈ l, g ∉ Tn.digests))
    (hX : ∀ X, cnf = some X → X.WF ∧ X.digests = [])
    (hsig : ∀ payload dsrc,
      encode (MJ.obj ms none).payload paths mk decoys (cnf.map (·.payload)) = .ok (payload, dsrc) →
      rt.jwtDecode jwt = .ok (header, payload))
    (hstr : ∀ s ∈ strs, ∃ e ∈ ds,
      fromBase64 (rt.env "sha-256") s = .ok ⟨s, e.digest, e.key, e.value⟩)
    (hnd : (strs.map (rt.hash "sha-256")).Nodup)
    (hall : ∀ e ∈ ds, ∃ s ∈ strs, rt.hash "sha-256" s = e.digest)
    (hj : '~' ∉ jwt.toList) (hs : ∀ s ∈ strs, '~' ∉ s.toList) :
    ∃ ps, Holder.verify rt (assemble jwt strs) = .ok (header, expectedClaims ms cnf, ps) ∧
      (ps.map (fun e => (e.1, e.2.digest))).Perm (Tn.paths "") ∧
      (∀ e ∈ ps, ∃ s ∈ strs, fromBase64 (rt.env "sha-256") s = .ok e.2) :=
  holder_verify_issued rt mk paths addr ms Tn ds decoys cnf jwt header strs wf hplain hk1 hk2 hp h hne
    hdec hX hsig hstr hnd hall hj hs

/-- the issuer model's output is what `C01_end_to_end` starts from: it succeeds and its payload is
the payload of the finished tree (decoys, `_sd_alg`, `cnf`) -/
theorem C01_encode_ok (mk : Nat → Option String → J → String) (paths : List String)
    (addr : List (List String × String)) (ms : MMems) (Tn : MJ) (ds : List SDisc)
    (decoys : Option (List String)) (cnf : Option MJ) (wf : (MJ.obj ms none).WF)
    (hp : ParsedAll paths addr) (h : markAll mk 0 addr (.obj ms none) = some (Tn, ds))
    (hk1 : "_sd_alg" ∉ ms.keys) (hk2 : "cnf" ∉ ms.keys) :
    encode (MJ.obj ms none).payload paths mk decoys (cnf.map (·.payload)) =
      .ok ((finish Tn decoys (!ds.isEmpty) cnf).payload, ds.map toSrc) :=
  encode_tree mk paths addr ms none Tn ds decoys cnf wf hp h hk1 hk2

/-- non-vacuity of `C01_end_to_end`: claims `{"a":1,"n":["x","y"]}`, paths `/n/1` then `/a`, a
runtime whose JWT library returns what the issuer model produced — every hypothesis is met, and
the holder returns the original claims -/
example : ∃ ps, Holder.verify exRt (assemble "J" ["dg1", "dg0"]) =
      .ok (.null, .obj [("a", .num 1 0), ("n", .arr [.str "x", .str "y"])], ps) ∧
      (ps.map (fun e => (e.1, e.2.digest))).Perm [("/a", "dg1"), ("/n/1", "dg0")] := by
  suffices h : ∃ ps, Holder.verify exRt (assemble "J" ["dg1", "dg0"]) =
      .ok (.null, .obj [("a", .num 1 0), ("n", .arr [.str "x", .str "y"])], ps) ∧
      (ps.map (fun e => (e.1, e.2.digest))).Perm [("/a", "dg1"), ("/n/1", "dg0")] ∧
      (∀ e ∈ ps, ∃ s ∈ ["dg1", "dg0"], fromBase64 (exRt.env "sha-256") s = .ok e.2) by
    obtain ⟨ps, h1, h2, _⟩ := h
    exact ⟨ps, h1, h2⟩
  have hwf : (MJ.obj exMs none).WF := by
    simp [exMs, MJ.WF, MMems.WF, MElems.WF, MMems.keysGt, MMems.marks, J.scalar]
  refine C01_end_to_end exRt exMk ["/n/1", "/a"] [(["n"], "1"), ([], "a")] exMs _ _ none none "J" .null
    ["dg1", "dg0"] hwf (by simp [exMs, MJ.digests, MMems.digests, MElems.digests])
    (by simp [exMs, MMems.keys]) (by simp [exMs, MMems.keys])
    ⟨parsed_renderPath ["n"] "1", parsed_renderPath [] "a", trivial⟩
    (rfl : markAll exMk 0 [(["n"], "1"), ([], "a")] (.obj exMs none) = some (_, _)) (by simp)
    (by simp) (by simp) ?_ ?_ (by decide) ?_ (by decide) (by decide)
  · intro payload dsrc he
    have : (Option.map (fun x : MJ => x.payload) none) = none := rfl
    rw [this] at he
    simp only [exRt, he]
  · intro s hs
    simp only [List.mem_cons, List.not_mem_nil, or_false] at hs
    rcases hs with rfl | rfl
    · exact ⟨⟨"dg1", some "a", .num 1 0⟩, by simp; exact ⟨by decide, rfl⟩, by simp [fromBase64, Rt.env, exRt]⟩
    · exact ⟨⟨"dg0", none, .str "y"⟩, by simp; exact ⟨by decide, rfl⟩, by simp [fromBase64, Rt.env, exRt]⟩
  · intro e he
    simp only [List.mem_cons, List.not_mem_nil, or_false] at he
    rcases he with rfl | rfl
    · exact ⟨"dg0", by simp, rfl⟩
    · exact ⟨"dg1", by simp, rfl⟩

/-- **The reported paths (T-restore, paths).** For every conformant tree and own disclosures in any
order: the holder's path list pairs each decoded disclosure with the JSON pointer of the node it
belongs to (`sound`), reports no node twice (`nodup`), and — when every marked node's disclosure
is presented — is up to order exactly (pointer, digest) of all marked nodes (`all`). -/
theorem C01_paths (env : Env) (T : MJ) (strs : List String) (inv : TreeInv T)
    (hdec : ∀ s ∈ strs, ∃ d, fromBase64 env s = .ok d)
    (hnd : (strs.map env.hash).Nodup)
    (hacc : ∀ s ∈ strs, ∀ d, fromBase64 env s = .ok d →
      DOk T d ∧ ∃ x, (d.digest, x) ∈ T.hiddenE ∧ d.value = x.payload) :
    ∃ c ps L, restoreAll env T.payload strs = .ok (c, ps) ∧
      removeAll c = T.project (fun h => strs.any (fun s => env.hash s = h)) ∧
      (∀ d ∈ L, ∃ s ∈ strs, fromBase64 env s = .ok d) ∧
      (∀ s ∈ strs, ∃ d ∈ L, fromBase64 env s = .ok d) ∧ PathsOK T L ps :=
  restoreAll_paths env T strs inv hdec hnd hacc

/-- **The holder reports the paths the issuer was given.** With the hypotheses of
`C01_end_to_end`, when the issuer is given JSON pointers in `format_path`'s canonical form (the
rendering of their tokens; a token that addresses an array element is the decimal of its index):
the path strings `Holder::verify` returns are, up to order, exactly the strings the issuer was
given — one per marked claim. -/
theorem C01_reported_paths (rt : Rt) (mk : Nat → Option String → J → String)
    (addr : List (List String × String)) (ms : MMems) (Tn : MJ)
    (ds : List SDisc) (decoys : Option (List String)) (cnf : Option MJ) (jwt : String) (header : J)
    (strs : List String)
    (wf : (MJ.obj ms none).WF) (hplain : (MJ.obj ms none).digests = [])
    (hk1 : "_sd_alg" ∉ ms.keys) (hk2 : "cnf" ∉ ms.keys)
    (hcanon : ∀ a ∈ addr, CanonToks (a.1 ++ [a.2]))
    (h : markAll mk 0 addr (.obj ms none) = some (Tn, ds)) (hne : ds ≠ [])
    (hdec : ∀ l, decoys = some l → l.Nodup ∧ (∀ g ∈ l, g ∉ Tn.digests))
    (hX : ∀ X, cnf = some X → X.WF ∧ X.digests = [])
    (hsig : ∀ payload dsrc,
      encode (MJ.obj ms none).payload (addr.map (fun a => renderPath a.1 a.2)) mk decoys
        (cnf.map (·.payload)) = .ok (payload, dsrc) →
      rt.jwtDecode jwt = .ok (header, payload))
    (hstr : ∀ s ∈ strs, ∃ e ∈ ds,
      fromBase64 (rt.env "sha-256") s = .ok ⟨s, e.digest, e.key, e.value⟩)
    (hnd : (strs.map (rt.hash "sha-256")).Nodup)
    (hall : ∀ e ∈ ds, ∃ s ∈ strs, rt.hash "sha-256" s = e.digest)
    (hj : '~' ∉ jwt.toList) (hs : ∀ s ∈ strs, '~' ∉ s.toList) :
    ∃ ps, Holder.verify rt (assemble jwt strs) = .ok (header, expectedClaims ms cnf, ps) ∧
      (ps.map (·.1)).Perm (addr.map (fun a => renderPath a.1 a.2)) := by
  -- the path list is left to unification with `parsedAll_render addr`: written out here, its `a.1`,
  -- `a.2` are elaborated late, and `hp`, `hsig` are first compared by unfolding `ParsedAll` and `encode`
  obtain ⟨ps, hv, hperm, _⟩ := C01_end_to_end rt mk _ addr ms Tn ds
    decoys cnf jwt header strs wf hplain hk1 hk2 (parsedAll_render addr) h hne hdec hX hsig hstr hnd hall hj hs
  refine ⟨ps, hv, .trans ?_ (issued_pointers mk addr _ Tn ds (Impl.no_digests _ wf hplain).1 hcanon h)⟩
  simpa [List.map_map, Function.comp_def] using hperm.map (·.1)

/-- **The marking hypothesis of `C01_end_to_end`, in the property's own terms.** For plain claims
(no digests in them) and a non-empty list of addresses each of which reaches an existing member
or element (`Addressable`; index tokens canonical), listed descendants before ancestors without
repetition (`NestedFirst`), and a digest function that never repeats a value
across draws: marking is defined and yields at least one disclosure — the hypotheses `h` and
`hne` of `C01_end_to_end` / `C01_reported_paths` hold. -/
theorem C01_valid_marking_defined (mk : Nat → Option String → J → String)
    (hmk : ∀ i j k v k' v', mk i k v = mk j k' v' → i = j)
    (addr : List (List String × String)) (ms : MMems) (hplain : (MJ.obj ms none).digests = [])
    (haddr : ∀ a ∈ addr, Addressable (.obj ms none) a)
    (hnf : NestedFirst addr) (hne : addr ≠ []) :
    ∃ Tn ds, markAll mk 0 addr (.obj ms none) = some (Tn, ds) ∧ ds ≠ [] := by
  obtain ⟨Tn, ds, h⟩ := markAll_defined mk hmk addr 0 (.obj ms none) haddr hnf
    (fun g hg => by rw [hplain] at hg; cases hg)
  refine ⟨Tn, ds, h, ?_⟩
  intro e
  have := markAll_length mk addr 0 _ Tn ds h
  rw [e] at this
  exact hne (List.length_eq_zero_iff.mp this.symm)

/-- **C01 for valid markings, stated without reference to the marked tree.** Plain claims `ms`
(conformant, no digests, not using `_sd_alg` / `cnf`), a non-empty list of addresses each reaching an
existing member or element (index tokens canonical; member names unrestricted, `"01"` included),
descendants before ancestors, no repeats; a digest function that never repeats a value across
draws.  Then marking is defined, and for *the* disclosures `ds` it makes — with the runtime
assumptions of `C01_end_to_end` about decoys, `cnf`, the JWT library and the disclosure strings —
the holder accepts the serialised token in any order of the disclosures, returns exactly the
original claims (plus `cnf`), and reports, up to order, exactly the path strings the issuer was
given. -/
theorem C01_valid_marking_round_trip (rt : Rt) (mk : Nat → Option String → J → String)
    (hmk : ∀ i j k v k' v', mk i k v = mk j k' v' → i = j)
    (addr : List (List String × String)) (ms : MMems)
    (wf : (MJ.obj ms none).WF) (hplain : (MJ.obj ms none).digests = [])
    (hk1 : "_sd_alg" ∉ ms.keys) (hk2 : "cnf" ∉ ms.keys)
    (haddr : ∀ a ∈ addr, Addressable (.obj ms none) a) (hnf : NestedFirst addr) (hne : addr ≠ []) :
    ∃ Tn ds, markAll mk 0 addr (.obj ms none) = some (Tn, ds) ∧ ds.length = addr.length ∧
      ∀ (decoys : Option (List String)) (cnf : Option MJ) (jwt : String) (header : J) (strs : List String),
        (∀ l, decoys = some l → l.Nodup ∧ (∀ g ∈ l, g ∉ Tn.digests)) →
        (∀ X, cnf = some X → X.WF ∧ X.digests = []) →
        (∀ payload dsrc,
          encode (MJ.obj ms none).payload (addr.map (fun a => renderPath a.1 a.2)) mk decoys
            (cnf.map (·.payload)) = .ok (payload, dsrc) →
          rt.jwtDecode jwt = .ok (header, payload)) →
        (∀ s ∈ strs, ∃ e ∈ ds, fromBase64 (rt.env "sha-256") s = .ok ⟨s, e.digest, e.key, e.value⟩) →
        (strs.map (rt.hash "sha-256")).Nodup →
        (∀ e ∈ ds, ∃ s ∈ strs, rt.hash "sha-256" s = e.digest) →
        '~' ∉ jwt.toList → (∀ s ∈ strs, '~' ∉ s.toList) →
        ∃ ps, Holder.verify rt (assemble jwt strs) = .ok (header, expectedClaims ms cnf, ps) ∧
          (ps.map (·.1)).Perm (addr.map (fun a => renderPath a.1 a.2)) := by
  obtain ⟨Tn, ds, h, hdsne⟩ := C01_valid_marking_defined mk hmk addr ms hplain haddr hnf hne
  refine ⟨Tn, ds, h, markAll_length mk addr 0 _ Tn ds h, ?_⟩
  intro decoys cnf jwt header strs hdec hX hsig hstr hnd hall hj hs
  -- the path list is left to unification, as in `C01_reported_paths`
  obtain ⟨ps, hv, hperm, _⟩ := C01_end_to_end rt mk _ addr ms Tn ds
    decoys cnf jwt header strs wf hplain hk1 hk2 (parsedAll_render addr) h hdsne hdec hX hsig hstr hnd hall hj hs
  refine ⟨ps, hv, .trans ?_ (issued_pointers_r mk addr _ Tn ds (Impl.no_digests _ wf hplain).1 haddr hnf h)⟩
  simpa [List.map_map, Function.comp_def] using hperm.map (·.1)



/-- **C01 down to the bytes of the disclosures.** `C01_end_to_end` with the disclosure strings
written out as the crate makes them: the `i`-th disclosure is the base64url (`Impl/Base64.lean`) of
the JSON text of `[salt i, name, value]` / `[salt i, value]`, its digest the base64url of SHA-256
over that string, and the holder starts by base64url-decoding each string. What `C01_end_to_end`
assumed of the strings (each decodes to the disclosure it was made from, hashes to the embedded
digest, holds no `~`) is proved here from the base64url round trip (`B64.dec_enc`), the alphabet
lemma (`B64.enc_no_tilde`) and one assumption on the JSON text codec: the parser reads back what the
printer wrote (`hc`). Still assumed: pairwise different digests (`hnd`), a JWT library that returns
what was signed (`hsig`) and a JWT without `~` (`hj`). The strings may be presented in any order
(`hperm`). -/
theorem C01_end_to_end_bytes (c : Codec) (salt : Nat → String)
    (decodeClaims : String → Option J) (jwtDecode : String → Outcome (J × J))
    (kbDecode : String → J → Outcome (J × J))
    (paths : List String) (addr : List (List String × String)) (ms : MMems) (Tn : MJ)
    (ds : List SDisc) (decoys : Option (List String)) (cnf : Option MJ) (jwt : String) (header : J)
    (strs : List String)
    (wf : (MJ.obj ms none).WF) (hplain : (MJ.obj ms none).digests = [])
    (hk1 : "_sd_alg" ∉ ms.keys) (hk2 : "cnf" ∉ ms.keys)
    (hp : ParsedAll paths addr)
    (h : markAll (c.digestFn "sha-256" salt) 0 addr (.obj ms none) = some (Tn, ds)) (hne : ds ≠ [])
    (hdec : ∀ l, decoys = some l → l.Nodup ∧ (∀ g ∈ l, g ∉ Tn.digests))
    (hX : ∀ X, cnf = some X → X.WF ∧ X.digests = [])
    (hsig : ∀ payload dsrc,
      encode (MJ.obj ms none).payload paths (c.digestFn "sha-256" salt) decoys (cnf.map (·.payload)) =
        .ok (payload, dsrc) → jwtDecode jwt = .ok (header, payload))
    (hc : ∀ j, c.parse (c.render j) = some j)
    (hperm : strs.Perm (c.wireStrs salt 0 ds))
    (hnd : (strs.map (c.hash "sha-256")).Nodup)
    (hj : '~' ∉ jwt.toList) :
    ∃ ps, Holder.verify (c.rt decodeClaims jwtDecode kbDecode) (assemble jwt strs) =
        .ok (header, expectedClaims ms cnf, ps) ∧
      (ps.map (fun e => (e.1, e.2.digest))).Perm (Tn.paths "") :=
  holder_verify_issued_wire c salt decodeClaims jwtDecode kbDecode paths addr ms Tn ds decoys cnf jwt
    header strs wf hplain hk1 hk2 hp h hne hdec hX hsig hc hperm hnd hj


/-- **C01 with the JSON text in the model too.** `C01_end_to_end_bytes` for the codec whose JSON
text is `JText.render` (compact text as `serde_json` writes it: `Impl/JsonText.lean`) read back by
`JText.parseAll`: the assumption "the reader reads back what the printer wrote" is discharged by
`JText.parseAll_render`, so nothing is assumed of JSON text, UTF-8 or base64url any more. What is
still assumed: the digests of the strings are pairwise different (`hnd`: SHA-2 and fresh salts), the
JWT library returns what was signed (`hsig`) and the JWT holds no `~` (`hj`). -/
theorem C01_end_to_end_text (sha : String → List UInt8 → List UInt8) (salt : Nat → String)
    (decodeClaims : String → Option J) (jwtDecode : String → Outcome (J × J))
    (kbDecode : String → J → Outcome (J × J))
    (paths : List String) (addr : List (List String × String)) (ms : MMems) (Tn : MJ)
    (ds : List SDisc) (decoys : Option (List String)) (cnf : Option MJ) (jwt : String) (header : J)
    (strs : List String)
    (wf : (MJ.obj ms none).WF) (hplain : (MJ.obj ms none).digests = [])
    (hk1 : "_sd_alg" ∉ ms.keys) (hk2 : "cnf" ∉ ms.keys)
    (hp : ParsedAll paths addr)
    (h : markAll ((textCodec sha).digestFn "sha-256" salt) 0 addr (.obj ms none) = some (Tn, ds)) (hne : ds ≠ [])
    (hdec : ∀ l, decoys = some l → l.Nodup ∧ (∀ g ∈ l, g ∉ Tn.digests))
    (hX : ∀ X, cnf = some X → X.WF ∧ X.digests = [])
    (hsig : ∀ payload dsrc,
      encode (MJ.obj ms none).payload paths ((textCodec sha).digestFn "sha-256" salt) decoys (cnf.map (·.payload)) =
        .ok (payload, dsrc) → jwtDecode jwt = .ok (header, payload))
    (hperm : strs.Perm ((textCodec sha).wireStrs salt 0 ds))
    (hnd : (strs.map ((textCodec sha).hash "sha-256")).Nodup)
    (hj : '~' ∉ jwt.toList) :
    ∃ ps, Holder.verify ((textCodec sha).rt decodeClaims jwtDecode kbDecode) (assemble jwt strs) =
        .ok (header, expectedClaims ms cnf, ps) ∧
      (ps.map (fun e => (e.1, e.2.digest))).Perm (Tn.paths "") :=
  holder_verify_issued_wire (textCodec sha) salt decodeClaims jwtDecode kbDecode paths addr ms Tn ds decoys
    cnf jwt header strs wf hplain hk1 hk2 hp h hne hdec hX hsig (textCodec_roundtrip sha) hperm hnd hj

/-- the hypothesis `hc` of `C01_end_to_end_bytes` / `C02_redact_bytes` is satisfiable: a codec whose
reader reads back what its printer wrote exists, for every hash function -/
example (sha : String → List UInt8 → List UInt8) : ∃ c : Codec, c.sha = sha ∧ ∀ j, c.parse (c.render j) = some j :=
  ⟨textCodec sha, rfl, textCodec_roundtrip sha⟩
