import SdJwt.Lemmas.Reject
import SdJwt.Lemmas.RestoreAll
import SdJwt.Lemmas.CodecL
/-!
# C12 — SD-JWTs the specification says must be rejected are rejected

Each rule below is proved for ARBITRARY payloads `P` and ARBITRARY presented lists `L` (not only
conformant ones), over the model of `restore_disclosures`, which `Verifier::verify`,
`Holder::verify` and `Holder::presentation` all run (`restoreAll`).

Rules about a *disclosure* (shape, name type, reserved name) hold for every presented string,
referenced or not. Rules about *embedding* (`_sd` type, placeholder shape, repeated digest) hold
for a defect anywhere in the payload, at any depth, because the validating pre-pass visits all of
it before anything is placed. The placement rules (arity vs. place, name collision) hold where the
digest is reached.
-/
open Impl Assoc

/-- a presented string whose content is not a JSON array of 2 or 3 elements -/
theorem C12_arity_shape (env : Env) (P : J) (L : List String) (s : String) (hs : s ∈ L) (j : J)
    (hd : env.decodeDisc s = some j)
    (hshape : (∀ a b, j ≠ .arr [a, b]) ∧ (∀ a b c, j ≠ .arr [a, b, c])) :
    ∃ e, restoreAll env P L = .err e := by
  apply restoreAll_err_of_bad_disclosure env P L s hs
  intro d hok
  unfold fromBase64 at hok
  rw [hd] at hok
  split at hok <;> try cases hok
  · rename_i a b heq; cases heq; exact hshape.1 _ _ rfl
  · rename_i a b c heq; cases heq; exact hshape.2 _ _ _ rfl

/-- a three-element disclosure whose claim name is not a string (D14) -/
theorem C12_name_type (env : Env) (P : J) (L : List String) (s : String) (hs : s ∈ L) (salt name v : J)
    (hd : env.decodeDisc s = some (.arr [salt, name, v])) (hn : ∀ k, name ≠ .str k) :
    ∃ e, restoreAll env P L = .err e := by
  apply restoreAll_err_of_bad_disclosure env P L s hs
  intro d hok
  unfold fromBase64 at hok
  rw [hd] at hok
  cases name with
  | str k => exact hn k rfl
  | _ => simp at hok

/-- a disclosure named `_sd` or `...` (D15) -/
theorem C12_name_reserved (env : Env) (P : J) (L : List String) (s : String) (hs : s ∈ L) (salt v : J)
    (name : String) (hd : env.decodeDisc s = some (.arr [salt, .str name, v]))
    (hr : name = "_sd" ∨ name = "...") :
    ∃ e, restoreAll env P L = .err e := by
  apply restoreAll_err_of_bad_disclosure env P L s hs
  intro d hok
  unfold fromBase64 at hok
  rw [hd] at hok
  simp only [hr, if_true] at hok
  cases hok

/-- a string that is not base64url / UTF-8 / JSON at all -/
theorem C12_undecodable (env : Env) (P : J) (L : List String) (s : String) (hs : s ∈ L)
    (hd : env.decodeDisc s = none) : ∃ e, restoreAll env P L = .err e := by
  apply restoreAll_err_of_bad_disclosure env P L s hs
  intro d hok
  unfold fromBase64 at hok
  rw [hd] at hok
  cases hok

/-- an `_sd` that is not an array, in any object at any depth of the payload (D18) -/
theorem C12_sd_not_array (env : Env) (P : J) (L : List String) (h : hasBadSd P = true) :
    ∀ r, restoreAll env P L ≠ .ok r := by
  intro r hok
  obtain ⟨_, _, _, h', _⟩ := restoreAll_ok_global env P L r hok
  cases h.symm.trans h'

/-- an array placeholder object with additional members, in any array at any depth (D18) -/
theorem C12_placeholder_extra (env : Env) (P : J) (L : List String) (h : hasBadPlaceholder P = true) :
    ∀ r, restoreAll env P L ≠ .ok r := by
  intro r hok
  obtain ⟨_, _, _, _, h', _⟩ := restoreAll_ok_global env P L r hok
  cases h.symm.trans h'

/-- the same digest embedded more than once anywhere in the payload (D17) -/
theorem C12_digest_twice (env : Env) (P : J) (L : List String) (h : ¬ (embedded P).Nodup) :
    ∀ r, restoreAll env P L ≠ .ok r := by
  intro r hok
  obtain ⟨_, _, hn, _⟩ := restoreAll_ok_global env P L r hok
  exact h (List.nodup_append.mp hn).1

/-- with `NoPanic`, "not ok" is "an error": the three rules above as `∃ e, … = err e` -/
theorem C12_embedding_err (env : Env) (P : J) (L : List String)
    (h : hasBadSd P = true ∨ hasBadPlaceholder P = true ∨ ¬ (embedded P).Nodup) :
    ∃ e, restoreAll env P L = .err e := by
  refine Outcome.err_of_not_ok (restoreAll_noPanic env P L) ?_
  rcases h with h | h | h
  · exact C12_sd_not_array env P L h
  · exact C12_placeholder_extra env P L h
  · exact C12_digest_twice env P L h

/-- a disclosed claim whose name already exists next to the digest is refused at that object:
a disclosure can never replace or shadow a member that is already there (D16) -/
theorem C12_collision (d : Disc) (p : String) (ms : List (String × J)) (sd : J) (k : String) (v : J)
    (hsd : aget "_sd" ms = some sd) (hc : sdContains sd d.digest = .ok true)
    (hk : d.key = some k) (hex : aget k ms = some v) :
    restoreOne d p (.obj ms) = .err .rejected := by
  have : ownSd d ms = .err .rejected := by simp [ownSd, hsd, hc, hk, hex]
  simp [restoreOne, this]

/-- arity against place, members: a two-element disclosure whose digest is found in an `_sd` -/
theorem C12_arity_place_member (d : Disc) (p : String) (ms : List (String × J)) (sd : J)
    (hsd : aget "_sd" ms = some sd) (hc : sdContains sd d.digest = .ok true) (hk : d.key = none) :
    restoreOne d p (.obj ms) = .err .rejected := by
  have : ownSd d ms = .err .rejected := by simp [ownSd, hsd, hc, hk]
  simp [restoreOne, this]

/-- arity against place, elements: a three-element disclosure whose digest is found at `...` -/
theorem C12_arity_place_element (d : Disc) (k : String) (hk : d.key = some k) :
    elemHit d (.obj [("...", .str d.digest)]) = .err .rejected := by
  simp [elemHit, aget, hk]

/-- an unsupported `_sd_alg` name -/
theorem C12_sd_alg (s : String) (h : s ≠ "sha-256" ∧ s ≠ "sha-384" ∧ s ≠ "sha-512") :
    parseHashAlg s = .err .hashAlg := by
  simp [parseHashAlg, h.1, h.2.1, h.2.2]

/-- …makes the holder and the verifier reject, whatever the disclosures -/
theorem C12_sd_alg_holder (rt : Rt) (tok : String) (parts : Parts) (header claims : J) (s : String)
    (hp : sdJwtParts tok.toList = .ok parts) (hk : parts.kb = none)
    (hj : rt.jwtDecode (strOf parts.jwt) = .ok (header, claims))
    (ha : (jidx claims "_sd_alg").asStr = some s)
    (h : s ≠ "sha-256" ∧ s ≠ "sha-384" ∧ s ≠ "sha-512") :
    Holder.verify rt tok = .err .hashAlg := by
  simp [Holder.verify, Holder.verifyRaw, hp, hk, hj, ha, C12_sd_alg s h]

theorem C12_sd_alg_verifier (rt : Rt) (tok : String) (policy : Bool) (parts : Parts) (header claims : J)
    (s : String) (hp : sdJwtParts tok.toList = .ok parts) (hk : parts.kb = none)
    (hj : rt.jwtDecode (strOf parts.jwt) = .ok (header, claims))
    (hc : isNullJ (jidx claims "cnf") = true)
    (ha : (jidx claims "_sd_alg").asStr = some s)
    (h : s ≠ "sha-256" ∧ s ≠ "sha-384" ∧ s ≠ "sha-512") :
    Verifier.verify rt tok policy = .err .hashAlg := by
  simp [Verifier.verify, Verifier.verifyRaw, hp, hk, hj, hc, ha, C12_sd_alg s h]

/-! non-vacuity: concrete payloads with each embedding defect, two levels down -/
example : hasBadSd (.obj [("a", .arr [.obj [("_sd", .str "x")]])]) = true := by decide
example : hasBadPlaceholder (.obj [("a", .arr [.obj [("...", .str "g"), ("y", .null)]])]) = true := by decide
example : ¬ (embedded (.obj [("_sd", .arr [.str "g"]), ("a", .arr [.obj [("...", .str "g")]])])).Nodup := by decide

/-- **The embedding rules hold globally: payload AND the values of all presented disclosures.**
If the restorer accepts, then no `_sd` is a non-array and no placeholder has extra members
anywhere in the payload or in any decoded disclosure's value, and all digests embedded in the
payload and in all disclosure values together are pairwise distinct (one shared set — D17). -/
theorem C12_global (env : Env) (P : J) (L : List String) (r : J × List PathEntry)
    (h : restoreAll env P L = .ok r) :
    ∃ ds, decodeAll env L [] = .ok ds ∧ (embedded P ++ embeddedValues ds).Nodup ∧
      hasBadSd P = false ∧ hasBadPlaceholder P = false ∧
      ∀ d ∈ ds, hasBadSd d.value = false ∧ hasBadPlaceholder d.value = false :=
  restoreAll_ok_global env P L r h

/-- a defect inside the VALUE of any presented disclosure — referenced or not, wherever it
stands in the list — makes the restoration fail: a non-array `_sd`, a placeholder with extra
members, a digest that is also embedded in the payload -/
theorem C12_defect_in_value (env : Env) (P : J) (L : List String) (s : String) (hs : s ∈ L) (d : Disc)
    (hd : fromBase64 env s = .ok d)
    (hbad : hasBadSd d.value = true ∨ hasBadPlaceholder d.value = true ∨
      ∃ g ∈ embedded d.value, g ∈ embedded P) :
    ∀ r, restoreAll env P L ≠ .ok r := by
  intro r hok
  obtain ⟨ds, hL, hnd, _, _, hclean⟩ := restoreAll_ok_global env P L r hok
  obtain ⟨d', hd', hf⟩ := (decodeAll_nil_ok hL).2.2 s hs
  cases hd.symm.trans hf
  rcases hbad with hb | hb | ⟨g, hg1, hg2⟩
  · cases hb.symm.trans (hclean d hd').1
  · cases hb.symm.trans (hclean d hd').2
  · have hmem : g ∈ embeddedValues ds :=
      List.mem_flatten.mpr ⟨_, List.mem_map_of_mem (f := fun d : Disc => embedded d.value) hd', hg1⟩
    exact (List.nodup_append.mp hnd).2.2 g hg2 g hmem rfl


/-- **a disclosure string with any character outside the base64url alphabet is rejected** — `=`
padding, the standard alphabet's `+` and `/`, white space, anything: `Disclosure::from_base64` fails
at its first step, whatever the rest of the string is; so does a string whose length is 1 modulo 4.
(With `B64.dec_injective`: no two different strings decode to the same bytes, so a re-spelled
disclosure is never read as the original.) -/
theorem C12_foreign_character_rejected (c : Codec) (alg s : String) (ch : Char) (hin : ch ∈ s.toList)
    (hout : B64.val ch = none) : fromBase64 (c.env alg) s = .err .decoding := by
  have : (c.env alg).decodeDisc s = none := by
    simp [Codec.env, Codec.decodeDisc, B64.dec_rejects_foreign s.toList ch hin hout]
  simp [fromBase64, this]

example : B64.val '=' = none ∧ B64.val '+' = none ∧ B64.val '/' = none ∧ B64.val ' ' = none ∧
    B64.val '~' = none := by decide

/-- **a disclosure string whose length is 1 modulo 4 is rejected** — a dangling sextet carries fewer
than eight bits, so no byte string has that spelling; `Disclosure::from_base64` fails at its first
step. -/
theorem C12_dangling_character_rejected (c : Codec) (alg s : String) (hlen : s.toList.length % 4 = 1) :
    fromBase64 (c.env alg) s = .err .decoding := by
  have hd : B64.dec s.toList = none := by
    cases h : B64.dec s.toList with
    | none => rfl
    | some bs => exact absurd hlen (B64.dec_length s.toList bs h)
  have : (c.env alg).decodeDisc s = none := by simp [Codec.env, Codec.decodeDisc, hd]
  simp [fromBase64, this]

/-- **one spelling per disclosure**: two strings that the decoder maps to the same bytes are the same
string — trailing bits, padding or another alphabet never give a second text for a disclosure, so a
disclosure's digest (taken over the text) is determined by the bytes it decodes to. -/
theorem C12_one_spelling (s t : String) (bs : List UInt8) (hs : B64.dec s.toList = some bs)
    (ht : B64.dec t.toList = some bs) : s = t :=
  String.toList_injective (B64.dec_injective s.toList t.toList bs hs ht)

example : B64.dec "QQ".toList = some [65] ∧ B64.dec "QR".toList = none ∧ B64.dec "QQ==".toList = none ∧
    B64.dec "Q".toList = none := by decide
