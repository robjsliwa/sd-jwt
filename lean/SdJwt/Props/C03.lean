import SdJwt.Lemmas.Reject
import SdJwt.Lemmas.Strip
import SdJwt.Lemmas.RestoreAll
import SdJwt.Lemmas.Complete
import SdJwt.Lemmas.FlowSound
/-!
# C03 — the verifier never returns what the issuer did not sign, whatever the holder sends

Statement: whatever list of disclosures accompanies an issuer-signed JWT — any subset, order,
repetitions, foreign, altered or malformed strings — the verifier either rejects or returns the
original claims with some disclosable claims absent; for a repetition-free, ancestor-closed list
of own disclosures it accepts and reveals exactly those claims, independent of order.

`C03_sound` is the first half at full strength (T-restore): for every conformant tree `T` and ANY
list of presented strings, restoration fails or strips to `T.project S`, `S` = the hashes of the
presented strings — by definition of `project` that is the original with marked nodes outside `S`,
and everything inside them, absent: never a member, value, element, multiplicity or order outside
`plain T`, never a node whose own or an enclosing disclosure was not presented. `C03_order` shows
the result depends on the set of presented strings only. `C03_complete` is the second half: a repetition-free
list of the token's own disclosures is accepted — in ANY order, nested ones before or after their
enclosing ones — and reveals exactly the claims whose own and enclosing disclosures are in the list
(the validating pre-pass is shown to succeed on conformant input: every digest of the tree is
visible in exactly one place).

Also proved for ARBITRARY payloads and lists: a repeated disclosure is rejected (`C03_repeated_rejected`, D5);
any undecodable or malformed string is rejected (`C03_malformed_rejected`); restoration never
panics; and whatever restoration produced, stripping a holder view of the token's tree yields a
projection of the original claims (`C03_strip_is_projection`): nothing outside `plain T`, nothing
whose enclosing disclosures are hidden. The refinement step (restoration of `payload T` with the
list `L` produces the view `hview (∈ L) T`) is T-restore, see Props/C08.
-/
open Impl Spec Assoc

/-- a list in which some disclosure (by digest) occurs twice is rejected, wherever the two
occurrences stand -/
theorem C03_repeated_rejected (env : Env) : (L : List String) → (acc : List Disc) →
    (∃ s ∈ L, ∃ d, fromBase64 env s = .ok d ∧ acc.any (fun d' => d'.digest = d.digest) = true) →
    ∃ e, decodeAll env L acc = .err e
  | [], _, h => by obtain ⟨s, hs, _⟩ := h; simp at hs
  | s :: r, acc, h => by
    refine Outcome.err_of_not_ok (decodeAll_noPanic env (s :: r) acc) fun ds hres => ?_
    obtain ⟨d, hf, hnot, hres⟩ := decodeAll_cons_ok.mp hres
    obtain ⟨s', hs', d', hd', hany⟩ := h
    rcases List.mem_cons.mp hs' with rfl | hs'
    · cases hf.symm.trans hd'
      cases hany.symm.trans hnot
    · obtain ⟨e, he⟩ := C03_repeated_rejected env r (d :: acc) ⟨s', hs', d', hd', by simp [hany]⟩
      cases he.symm.trans hres

/-- the same string presented twice is rejected -/
theorem C03_same_string_twice (env : Env) (P : J) (L1 L2 L3 : List String) (s : String) :
    ∃ e, restoreAll env P (L1 ++ s :: (L2 ++ s :: L3)) = .err e := by
  refine Outcome.err_of_not_ok (restoreAll_noPanic env P _) fun r hres => ?_
  obtain ⟨ds, hd, _⟩ := restoreAll_ok_iff.mp hres
  -- walk to the first occurrence, then apply `C03_repeated_rejected` to the rest
  have key : ∀ (L1 : List String) (acc : List Disc),
      decodeAll env (L1 ++ s :: (L2 ++ s :: L3)) acc ≠ .ok ds := by
    intro L1
    induction L1 with
    | nil =>
      intro acc h
      obtain ⟨d, hf, _, h⟩ := decodeAll_cons_ok.mp h
      obtain ⟨e, he⟩ := C03_repeated_rejected env (L2 ++ s :: L3) (d :: acc)
        ⟨s, by simp, d, hf, by simp⟩
      cases he.symm.trans h
    | cons x xs ih =>
      intro acc h
      obtain ⟨d, _, _, h⟩ := decodeAll_cons_ok.mp h
      exact ih _ h
  exact key L1 [] hd

/-- an altered, truncated, non-base64, non-JSON or wrong-arity string anywhere in the list makes
the verifier reject -/
theorem C03_malformed_rejected (env : Env) (P : J) (L : List String) (s : String) (hs : s ∈ L)
    (hbad : ∀ d, fromBase64 env s ≠ .ok d) : ∃ e, restoreAll env P L = .err e :=
  restoreAll_err_of_bad_disclosure env P L s hs hbad

/-- whatever the list, restoration returns a value or an error -/
theorem C03_total (env : Env) (P : J) (L : List String) : (restoreAll env P L).NoPanic :=
  restoreAll_noPanic env P L

/-- any holder view of a conformant tree strips to a projection of the original claims: members,
values, elements, multiplicities and order are those of `plain T`, restricted to marked nodes in
`S` all of whose enclosing marked nodes are in `S` -/
theorem C03_strip_is_projection (S : String → Bool) (T : MJ) (wf : T.WF) :
    removeAll (T.hview S) = T.project S :=
  MJ.removeAll_hview S T wf

/-- **Soundness, for every conformant tree and every list an attacker can type.** Hypotheses:
`TreeInv T` (well formed, digests and mark digests pairwise distinct); every decodable presented
string is acceptable for `T` (`DOk`: it agrees with the tree's node of the same digest, if any, and
its digest is not that of a decoy) — both are consequences of SHA-2 collision resistance. -/
theorem C03_sound (env : Env) (T : MJ) (strs : List String) (inv : TreeInv T)
    (hacc : ∀ s ∈ strs, ∀ d, fromBase64 env s = .ok d → DOk T d) :
    (∃ e, restoreAll env T.payload strs = .err e) ∨
    ∃ c ps, restoreAll env T.payload strs = .ok (c, ps) ∧
      removeAll c = T.project (fun h => strs.any (fun s => env.hash s = h)) :=
  restoreAll_sound env T strs inv hacc

/-- the revealed claims depend only on the set of presented strings: any permutation (indeed any
list with the same members) selects the same projection -/
theorem C03_order (env : Env) (T : MJ) (strs strs' : List String) (h : ∀ s, s ∈ strs ↔ s ∈ strs') :
    T.project (fun g => strs.any (fun s => env.hash s = g)) =
    T.project (fun g => strs'.any (fun s => env.hash s = g)) := by
  congr 1
  funext g
  apply Bool.eq_iff_iff.mpr
  simp only [List.any_eq_true, decide_eq_true_eq]
  constructor
  · rintro ⟨s, hs, e⟩; exact ⟨s, (h s).mp hs, e⟩
  · rintro ⟨s, hs, e⟩; exact ⟨s, (h s).mpr hs, e⟩

/-- **Completeness.** For a conformant tree and presented strings that all decode, have pairwise
different hashes (a repetition-free list), are acceptable and are disclosures of marked nodes of
the tree (own disclosures): the verifier's restoration ACCEPTS, whatever the order of the list, and
strips to the projection onto the presented hashes. For an ancestor-closed list that projection
reveals exactly the listed claims; `C03_order` shows it is the same for every permutation. -/
theorem C03_complete (env : Env) (T : MJ) (strs : List String) (inv : TreeInv T)
    (hdec : ∀ s ∈ strs, ∃ d, fromBase64 env s = .ok d)
    (hnd : (strs.map env.hash).Nodup)
    (hacc : ∀ s ∈ strs, ∀ d, fromBase64 env s = .ok d →
      DOk T d ∧ ∃ x, (d.digest, x) ∈ T.hiddenE ∧ d.value = x.payload) :
    ∃ c ps, restoreAll env T.payload strs = .ok (c, ps) ∧
      removeAll c = T.project (fun h => strs.any (fun s => env.hash s = h)) :=
  restoreAll_complete env T strs inv hdec hnd hacc

/-- non-vacuity: a conformant tree with a nested mark and an array mark satisfies `TreeInv` -/
example :
    let T : MJ := .obj (.marked "a" "g1" (.obj (.marked "k" "g3" (.leaf .null) .nil) (some ["g3"]))
                    (.clear "n" (.arr (.marked "g2" (.leaf (.str "x")) (.clear (.leaf (.str "y")) .nil))) .nil))
                  (some ["d0", "g1"])
    T.digests.Nodup ∧ T.allMarks.Nodup := by
  decide

/-- **C03 at the level of `Verifier::verify`.** Let `T` be a conformant tree; suppose whatever
the JWT library accepts carries the payload of `T` (the issuer's is the only validly signed
payload around — unforgeability, a parameter of the model), and every decodable disclosure
string is acceptable for `T` (collision resistance).  Then for EVERY presented string — any
disclosures in any order, repetitions, foreign or malformed segments, with or without a
key-binding JWT, under any key-binding policy — if the verifier returns claims at all, they are
`T`'s claims with exactly those marked nodes present whose own and enclosing disclosures are
among the presented segments (and the top-level `_sd_alg` dropped). -/
theorem C03_verifier_flow (rt : Rt) (tok : String) (policy : Bool) (T : MJ) (inv : TreeInv T)
    (hsig : ∀ j h p, rt.jwtDecode j = .ok (h, p) → p = T.payload)
    (hacc : ∀ alg s d, fromBase64 (rt.env alg) s = .ok d → DOk T d) (h c : J)
    (hv : Verifier.verify rt tok policy = .ok (h, c)) :
    ∃ (alg : String) (strs : List String),
      c = dropAlg (T.project (fun g => strs.any (fun s => rt.hash alg s = g))) :=
  verifier_flow_sound rt tok policy T inv hsig hacc h c hv

/-- the same for `Holder::verify` -/
theorem C03_holder_flow (rt : Rt) (tok : String) (T : MJ) (inv : TreeInv T)
    (hsig : ∀ j h p, rt.jwtDecode j = .ok (h, p) → p = T.payload)
    (hacc : ∀ alg s d, fromBase64 (rt.env alg) s = .ok d → DOk T d) (h c : J) (ps : List PathEntry)
    (hv : Holder.verify rt tok = .ok (h, c, ps)) :
    ∃ (alg : String) (strs : List String),
      c = dropAlg (T.project (fun g => strs.any (fun s => rt.hash alg s = g))) :=
  holder_flow_sound rt tok T inv hsig hacc h c ps hv

/-- what the verifier does whenever it returns: split, let the JWT library decide, restore from
the segments found in the string, strip — for every string and every runtime -/
theorem C03_verifier_shape (rt : Rt) (tok : String) (policy : Bool) (h c : J)
    (hv : Verifier.verify rt tok policy = .ok (h, c)) :
    ∃ parts p alg c0 ps, sdJwtParts tok.toList = .ok parts ∧
      rt.jwtDecode (strOf parts.jwt) = .ok (h, p) ∧
      restoreAll (rt.env alg) p (parts.disclosures.map strOf) = .ok (c0, ps) ∧ c = removeDigests c0 :=
  verifier_verify_inv rt tok policy h c hv
