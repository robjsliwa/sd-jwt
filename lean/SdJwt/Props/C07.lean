import SdJwt.Impl.Restore
import SdJwt.Impl.Issuer
import SdJwt.Lemmas.IssuerL
import SdJwt.Lemmas.Assoc
import SdJwt.Lemmas.IssueAll
import SdJwt.Lemmas.RefSound
import SdJwt.Lemmas.MarkInv
import SdJwt.Lemmas.CodecL
import SdJwt.Lemmas.TextCodec
/-!
# C07 — issued SD-JWTs are spec-conformant as judged by an independent verifier

Statement: every SD-JWT the issuer produces is well formed as judged by an independent
implementation of the specification's verification algorithm; that verifier reconstructs exactly
the original claims from it, and the expected subset for every subset of the disclosures.

The independent verifier is `Spec/RefVerify.lean` (written from the specification text, shares no
definition with `Impl/`); it is *run* on the bytes of the real issuer's output by every check.
Proved here: the JSON-level disclosure round trip, that reserved names are never used, and the
local placement facts of the issuer model (digest of a member goes to the parent's `_sd`, digest of
an element takes the element's index). `C07_issue` is the global statement (T-issue): the
issuer model's output for a list of paths is `payload Tn` for the marked tree `Tn` obtained by
marking the addressed nodes one after another — each digest embedded exactly once, at the position
of the node it replaces (that is what `payload` of a marked tree is) — `Tn` is conformant and
stands for the same claims; `C07_pointer` shows every rendered JSON pointer is parsed back.
-/
open Impl Spec Assoc

/-- disclosure round trip at JSON level: a string that decodes to `[salt, name, value]` with a
non-reserved name is read back as exactly that name and value, with the digest of the string *as
presented* -/
theorem C07_disclosure_member (env : Env) (s : String) (salt v : J) (name : String)
    (hd : env.decodeDisc s = some (.arr [salt, .str name, v]))
    (hn : name ≠ "_sd" ∧ name ≠ "...") :
    fromBase64 env s = .ok { str := s, digest := env.hash s, key := some name, value := v } := by
  simp [fromBase64, hd, hn.1, hn.2]

theorem C07_disclosure_element (env : Env) (s : String) (salt v : J)
    (hd : env.decodeDisc s = some (.arr [salt, v])) :
    fromBase64 env s = .ok { str := s, digest := env.hash s, key := none, value := v } := by
  simp [fromBase64, hd]

/-- reserved names are never used as claim names: marking a member called `_sd` or `...` fails -/
theorem C07_reserved_never_disclosed (mk : Option String → J → String) (key : String)
    (ms : List (String × J)) (v : J) (hk : aget key ms = some v) (hr : key = "_sd" ∨ key = "...") :
    hideIn mk key (.obj ms) = .err .format := by
  simp [hideIn, hk, hr]

/-- placement, members: the member is removed and its digest — the digest of *its* disclosure — is
appended to the `_sd` of the same object -/
theorem C07_member_placement (mk : Option String → J → String) (key : String) (ms : List (String × J))
    (v : J) (hk : aget key ms = some v) (hr : key ≠ "_sd" ∧ key ≠ "...")
    (hsd : aget "_sd" (adel key ms) = none) :
    hideIn mk key (.obj ms) =
      .ok (.obj (ains "_sd" (.arr [.str (mk (some key) v)]) (adel key ms)),
           ⟨some key, v, mk (some key) v⟩) := by
  simp [hideIn, hk, hr.1, hr.2, hsd]

/-- placement, elements: the element is replaced, at the same index, by `{"...": digest}`; the
array keeps its length and every other element its position -/
theorem C07_element_placement (mk : Option String → J → String) (key : String) (xs : List J) (i : Nat)
    (v : J) (hp : parseUsize key.toList = some i) (hv : xs[i]? = some v) :
    hideIn mk key (.arr xs) = .ok (.arr (xs.set i (placeholder (mk none v))), ⟨none, v, mk none v⟩) := by
  simp [hideIn, hp, hv]

/-- `_sd_alg` is declared whenever a disclosure exists -/
theorem C07_sd_alg_declared (ms : List (String × J)) (p : String) (ps : List String)
    (mk : Nat → Option String → J → String) (payload : J) (ds : List DiscSrc)
    (h : encode (.obj ms) (p :: ps) mk none none = .ok (payload, ds)) :
    ∃ ms', payload = .obj ms' ∧ aget "_sd_alg" ms' = some (.str "sha-256") := by
  unfold encode at h
  cases ha : applyPaths mk 0 (.obj ms) (p :: ps) with
  | panic => simp [ha] at h
  | err e => simp [ha] at h
  | ok r =>
    obtain ⟨c1, ds1⟩ := r
    have ho := applyPaths_isObj mk 0 (.obj ms) (p :: ps) c1 ds1 ha rfl
    have hne : ds1.isEmpty = false := by
      unfold applyPaths at ha
      split at ha
      · cases ha
      · cases ha
      · split at ha
        · cases ha
        · cases ha
        · cases ha; rfl
    cases c1 with
    | obj ms1 =>
      simp [ha, hne, setMember] at h
      obtain ⟨rfl, _⟩ := h
      exact ⟨_, rfl, Assoc.aget_ains_self _ _ _⟩
    | _ => simp [J.isObj] at ho

/-- **T-issue.** For every claims tree `T` (possibly already partly marked), every list of path
strings addressing nodes `addr` and every digest function: if marking those nodes in that order is
defined (each path reaches a not yet hidden node through not yet hidden nodes — nested before
enclosing, no repeats — and each digest is new to the tree), the issuer's working copy is the
payload of the marked tree, the disclosures are those of the marked nodes in path order, the
marked tree is well formed, and its original claims are unchanged. -/
theorem C07_issue (mk : Nat → Option String → J → String) (paths : List String)
    (addr : List (List String × String)) (T Tn : MJ) (ds : List SDisc) (wf : T.WF)
    (hp : ParsedAll paths addr) (h : markAll mk 0 addr T = some (Tn, ds)) :
    applyPaths mk 0 T.payload paths = .ok (Tn.payload, ds.map toSrc) ∧ Tn.WF ∧ Tn.plain = T.plain :=
  applyPaths_markAll mk paths addr 0 T Tn ds wf hp h

/-- every JSON pointer rendered from names (any names: empty, numeric-looking, with `/` or `~`)
is parsed by the issuer into exactly those names (D20) -/
theorem C07_pointer (toks : List String) (last : String) : Parsed (renderPath toks last) toks last :=
  parsed_renderPath toks last

/-- non-vacuity: marking `/addr/street` and then `/addr` in `{"addr":{"street":"x"},"n":1}` is
defined, and the result hides both -/
example :
    let T : MJ := .obj (.clear "addr" (.obj (.clear "street" (.leaf (.str "x")) .nil) none)
                    (.clear "n" (.leaf (.num 1 0)) .nil)) none
    (markAll (fun i _ _ => "dg" ++ toString i) 0 [(["addr"], "street"), ([], "addr")] T).map (fun r => r.1.payload)
      = some (.obj [("_sd", .arr [.str "dg1"]), ("n", .num 1 0)]) := by
  rfl

/-- **T-ref: the independent verifier computes the projection.** `Ref.verify` is the draft's
verification algorithm (§7.1) written from the text; it shares no definition with the model of
the library.  For every conformant tree with pairwise distinct digests and every table of
disclosures in which the entry under a marked node's digest is that node's disclosure (and no
entry sits under a decoy), it returns exactly the tree's claims with those marked nodes present
whose own and enclosing disclosures are in the table, top-level `_sd_alg` dropped — the expected
subset for every subset, the original claims for all of them.  With `C07_issue` /
`C01_encode_ok` (the issuer model's payload is the payload of such a tree) this is C07's
statement for the model; on the real bytes `Ref.verify` is *run* by every check. -/
theorem C07_ref (T : MJ) (wf : T.WF) (nd : T.digests.Nodup) (ndm : T.allMarks.Nodup)
    (tbl : List (String × J)) (htbl : Ref.TblOn T.discs T.deepStale tbl)
    (hshape : Ref.shapesOk tbl = .ok ()) (hdup : Ref.dupFree tbl = true) :
    Ref.verify false T.payload tbl = .ok (Ref.dropAlgJ (T.project (Ref.sel tbl))) :=
  Ref.verify_project T wf nd ndm tbl htbl hshape hdup

/-- the fuel the independent verifier computes is enough for every conformant tree and table -/
theorem C07_ref_fuel (T : MJ) (wf : T.WF) (ndm : T.allMarks.Nodup) (tbl : List (String × J))
    (htbl : Ref.TblOn T.discs T.deepStale tbl) :
    T.need (Ref.sel tbl) ≤ Ref.jsize T.payload + (tbl.map (fun p => Ref.jsize p.2)).sum + 2 :=
  Ref.need_le_fuel T wf ndm tbl htbl

/-- **C07 in the model: what the issuer produces, judged by the independent verifier.**  For every
conformant start tree, every marking the issuer performs (`markAll` defined — `C07_issue` shows
the issuer model's payload is `Tn.payload`) and ANY selection `sub` of the issuer's disclosures
(each with any salt, no digest twice), in any order: the specification's verification algorithm
accepts and reconstructs exactly the issued tree's claims with those marked nodes present whose
own and enclosing disclosures are selected — the expected subset for every subset; with all of
them, the original claims (`Tn.plain = T.plain`). -/
theorem C07_issued_ref (mk : Nat → Option String → J → String) (addr : List (List String × String))
    (T Tn : MJ) (ds : List SDisc) (inv : TreeInv T) (h : markAll mk 0 addr T = some (Tn, ds))
    (sub : List (SDisc × J)) (hsub : ∀ p ∈ sub, p.1 ∈ ds) (hnd : (sub.map (·.1.digest)).Nodup) :
    Ref.verify false Tn.payload (Ref.tblOf sub) =
      .ok (Ref.dropAlgJ (Tn.project (fun g => sub.any (fun p => p.1.digest = g)))) ∧
    Tn.plain = T.plain := by
  obtain ⟨invn, hst, _, pdi, pd⟩ := markAll_inv mk addr 0 T Tn ds inv h
  have hndd : (ds.map (·.digest) ++ T.digests).Nodup := pd.nodup invn.nd
  refine ⟨Ref.verify_own Tn invn.wf invn.nd invn.ndm sub (fun p hp => ⟨?_, ?_⟩) hnd,
    markAll_plain mk addr 0 T Tn ds h⟩
  · exact pdi.symm.subset (by simp [hsub p hp])
  · intro hh
    have h1 : p.1.digest ∈ T.digests := MJ.deepStale_sub_digests T _ (hst _ hh)
    exact (List.nodup_append.mp hndd).2.2 p.1.digest (List.mem_map_of_mem (hsub p hp)) p.1.digest h1 rfl


/-- **the form of a disclosure string and of its digest**, with base64url in the model: the string
`Disclosure::build` makes is the base64url encoding of the JSON text of `[salt, name, value]` /
`[salt, value]` — decoding it gives back exactly those bytes —, it is unpadded (no `=`), holds none
of the framing characters `~` and `.`, and its digest is the base64url of the hash of the string
itself under the named algorithm; `Disclosure::from_base64` reads the same name and value back -/
theorem C07_disclosure_string_form (c : Codec) (alg salt : String) (key : Option String) (v : J) :
    B64.dec (c.discString salt key v).toList = some (c.render (discJson salt key v)) ∧
    '=' ∉ (c.discString salt key v).toList ∧ '~' ∉ (c.discString salt key v).toList ∧
    '.' ∉ (c.discString salt key v).toList ∧
    c.hash alg (c.discString salt key v) =
      String.ofList (B64.enc (c.sha alg (utf8 (c.discString salt key v)))) ∧
    ((∀ j, c.parse (c.render j) = some j) → (∀ k, key = some k → ¬(k = "_sd" ∨ k = "...")) →
      fromBase64 (c.env alg) (c.discString salt key v) =
        .ok ⟨c.discString salt key v, c.hash alg (c.discString salt key v), key, v⟩) := by
  refine ⟨?_, ?_, ?_, ?_, rfl, ?_⟩
  · simp [Codec.discString, String.toList_ofList, B64.dec_enc]
  · simp only [Codec.discString, String.toList_ofList]; exact B64.enc_no_pad _
  · exact discString_no_tilde c salt key v
  · simp only [Codec.discString, String.toList_ofList]; exact B64.enc_no_dot _
  · intro hc hk; exact fromBase64_discString c hc alg salt key v hk


/-- **the disclosure text itself**: for the codec of `Impl/JsonText.lean` a disclosure string is the
base64url of the UTF-8 bytes of the compact JSON text `["salt","name",value]` / `["salt",value]`,
strings escaped as JSON demands — and that text determines salt, name and value: two disclosures with
the same text are the same disclosure (`JText.render_injective`) -/
theorem C07_disclosure_text (salt salt' : String)
    (key key' : Option String) (v v' : J)
    (h : JText.render (discJson salt key v) = JText.render (discJson salt' key' v')) :
    salt = salt' ∧ key = key' ∧ v = v' := by
  have := JText.render_injective _ _ h
  cases key <;> cases key' <;> simp_all [discJson]

example : String.ofList (JText.render (discJson "2GLC42sKQveCfGfryNRN9w" (some "given_name") (.str "John\n"))) =
    "[\"2GLC42sKQveCfGfryNRN9w\",\"given_name\",\"John\\n\"]" := by
  simp only [discJson, JText.render, JText.renderElems, JText.renderStr]
  -- read each literal as the list of its characters; evaluating `toList` decodes its UTF-8 bytes
  repeat rw [String.toList_ofList]
  rfl
