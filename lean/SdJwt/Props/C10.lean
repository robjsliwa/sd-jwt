import SdJwt.Lemmas.Total
/-!
# C10 — no untrusted input can crash or hang the holder, the verifier or the parsers  (partial)

Statement (properties.jsonl): no input string, however malformed, makes SD-JWT splitting,
disclosure decoding, holder- or verifier-side restoration … panic, abort or fail to terminate;
each returns an error or a value.

What is proved here: for **every** input, each modelled function returns `ok` or `err`, never
`panic`. The model has an explicit `panic` outcome wherever the Rust can panic, so this is not
vacuous: `C10_prefix_witness` shows that the literal transcription of `sd_jwt_parts` *before* the
repair of D1 does yield `panic`. Termination is Lean's totality check of the definitions (the
only non-structural loop, the restoration rounds, runs on fuel = length of the pending list).

Partial: third-party parsers and crypto (base64, serde_json, serde_yaml, RustCrypto) are
parameters of the model (`Env`), exercised by the correspondence run, not proved.
-/
open Impl Outcome

/-- `sd_jwt_parts` returns for every string (D1 repaired). -/
theorem C10_total_sdJwtParts (s : List Char) : (sdJwtParts s).NoPanic :=
  sdJwtParts_noPanic s

/-- the pre-fix transcription really panics on a string without `~`: the `panic` outcome is live -/
theorem C10_prefix_witness : sdJwtPartsPreFix ['a', '.', 'b'] = .panic := by decide

/-- …and the repaired function does not, on the same input -/
theorem C10_fixed_witness :
    sdJwtParts ['a', '.', 'b'] = .ok { jwt := ['a', '.', 'b'], disclosures := [], kb := none } := by
  decide

theorem C10_total_getJwtPart (s : List Char) (p : JwtPart) : (getJwtPart s p).NoPanic :=
  getJwtPart_noPanic s p

/-- `Disclosure::from_base64` on any string, whatever the byte-level decoders return -/
theorem C10_total_fromBase64 (env : Env) (s : String) : (fromBase64 env s).NoPanic :=
  fromBase64_noPanic env s

/-- the validating pre-pass, on any JSON value -/
theorem C10_total_checkDigests (j : J) (seen : List String) : (checkDigests j seen).NoPanic :=
  checkDigests_noPanic j seen

/-- one restoration walk, on any JSON value and any disclosure -/
theorem C10_total_restoreOne (d : Disc) (p : String) (j : J) : (restoreOne d p j).NoPanic :=
  restoreOne_noPanic d p j

/-- `restore_disclosures` on any payload and any list of presented strings: decoding, the
repeat check, validation and all rounds -/
theorem C10_total_restoreAll (env : Env) (payload : J) (presented : List String) :
    (restoreAll env payload presented).NoPanic :=
  restoreAll_noPanic env payload presented

/-- the rounds terminate within their fuel: with fuel = length of the pending list the loop is
never cut short (if fuel runs out the pending list is empty). Stated as: a list longer than the
fuel is impossible along the loop, i.e. each productive round strictly shortens the list. -/
theorem C10_round_shrinks (c : J) (pending : List Disc) (c' : J) (unplaced : List Disc)
    (ps : List PathEntry) (h : roundOnce c pending = .ok (c', unplaced, ps)) :
    unplaced.length ≤ pending.length := by
  fun_induction roundOnce c pending generalizing c' unplaced ps <;> simp at h
  · simp [h]
  · next ih =>
    obtain ⟨_, rfl, _⟩ := h
    have := ih _ _ _ ‹_›
    split <;> simp <;> omega
