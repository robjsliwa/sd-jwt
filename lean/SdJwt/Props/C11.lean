import SdJwt.Lemmas.Policy
/-!
# C11 — validation policy: builder steps independent, every configured check enforced

Statement: each builder step changes only the setting it names, so the policy does not depend on
the order of steps; every configured setting is enforced when a token is verified.

`C11_frame`: frame condition for every builder and every field. `C11_order`: each field of the
result of ANY sequence of steps is determined by the sub-sequence of steps naming that field.
`C11_enforce_claims` / `C11_enforce`: the decision of `decode` (our `build_validation` composed
with the re-model of the JWT library's checks) is exactly the conjunction of the configured
constraints, outside the overflow region of D21 (known finding, see C10).
-/
open Impl Assoc

/-- frame condition: a step leaves every field it does not name unchanged
(`validateNbf` and `validateAud` are named by no step) -/
theorem C11_frame (v : Validation) (s : Step) :
    (s.field ≠ Field.required → (v.step s).required = v.required) ∧
    (s.field ≠ Field.leeway → (v.step s).leeway = v.leeway) ∧
    (s.field ≠ Field.validateExp → (v.step s).validateExp = v.validateExp) ∧
    (v.step s).validateNbf = v.validateNbf ∧
    (v.step s).validateAud = v.validateAud ∧
    (s.field ≠ Field.aud → (v.step s).aud = v.aud) ∧
    (s.field ≠ Field.iss → (v.step s).iss = v.iss) ∧
    (s.field ≠ Field.sub → (v.step s).sub = v.sub) ∧
    (s.field ≠ Field.alg → (v.step s).alg = v.alg) := by
  cases s <;> simp [Validation.step, Step.field]

/-- in particular `without_expiry` no longer resets the algorithm or anything else (D12) -/
theorem C11_without_expiry_keeps (v : Validation) :
    v.step .withoutExpiry = { v with validateExp := false } := rfl

/-- Order independence, at full strength: for ANY sequence of builder steps and any field, the
field's final value is what the sub-sequence of steps naming that field produces. Steps that name
different settings therefore commute, in any interleaving. -/
theorem C11_order (f : Field) (ss : List Step) (v : Validation) :
    proj f (v.steps ss) = proj f (v.steps (ss.filter (fun s => s.field = f))) :=
  proj_steps_filter f ss v v rfl

/-- two steps naming different settings commute -/
theorem C11_commute (v : Validation) (s t : Step) (h : s.field ≠ t.field) :
    (v.step s).step t = (v.step t).step s := by
  cases s <;> cases t <;> first | rfl | exact absurd rfl h

/-- non-vacuity of `C11_order`: a six-step sequence, its `alg` projection comes from the two
`with_algorithm` steps only -/
example : proj .alg (Validation.default.steps
    [.withAlgorithm .HS256, .withoutExpiry, .withAudience "a", .withAlgorithm .ES256, .withLeeway 5, .withoutExpiry])
    = proj .alg (Validation.default.steps [.withAlgorithm .HS256, .withAlgorithm .ES256]) := by
  decide

/-! ## enforcement -/

/-- Every configured setting is enforced: the claims checks accept exactly when all configured
constraints hold (`Holds`: exp and nbf with leeway, issuer, subject — D13 —, audience, required
claims), outside the overflow region of D21. -/
theorem C11_enforce_claims (v : Validation) (claims : List (String × J)) (now : Nat)
    (hno : NoOverflow v claims) :
    validateClaims (buildValidation v) claims now = .ok () ↔ Holds v claims now :=
  validateClaims_ok_iff v claims now hno

/-- the whole of `decode`: accepted iff the header names the configured algorithm, the key family
admits it and the signature primitive accepts, the payload is an object, and all configured
constraints hold. -/
theorem C11_enforce (v : Validation) (fam : KeyFam) (hdrAlg : JwtAlg) (sigOk : Bool)
    (claims : List (String × J)) (now : Nat) (hno : NoOverflow v claims) :
    decodeDecision v fam hdrAlg sigOk (.obj claims) now = .ok () ↔
      hdrAlg = toJwtAlgV v.alg ∧ famAllows fam hdrAlg = true ∧ sigOk = true ∧ Holds v claims now :=
  decodeDecision_ok_iff v fam hdrAlg sigOk claims now hno

/-- non-vacuity: a policy with audience, issuer, subject, a required claim and leeway, and claims
that satisfy it at `now = 1000` -/
example : Holds ((Validation.new .HS256).steps
      [.withAudience "a", .withIssuer "i", .withSubject "s", .withRequiredClaim "x", .withLeeway 60])
    [("aud", .arr [.str "z", .str "a"]), ("exp", .num 950 0), ("iss", .str "i"), ("sub", .str "s"), ("x", .null)]
    1000 := by
  refine ⟨?_, ?_, ?_, ?_, ?_, ?_⟩ <;> simp [Validation.steps, Validation.step, Validation.new, aget, asU64, u64Max, insertSet, strList, J.asStr]

/-- …and the subject is enforced: the same claims with another subject are refused -/
example : validateClaims (buildValidation ((Validation.new .HS256).steps [.withoutExpiry, .withSubject "s"]))
    [("sub", .str "t")] 1000 = .err .jwt := by
  decide
