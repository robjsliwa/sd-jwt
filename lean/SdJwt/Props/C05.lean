import SdJwt.Lemmas.KB
import SdJwt.Lemmas.EndToEnd
/-!
# C05 — key binding enforced: bound SD-JWTs need a valid KB-JWT over this presentation

Statement: if the issuer bound the SD-JWT to a holder key, the verifier accepts a presentation
when, and only when, it ends with a key-binding JWT signed by that key under the expected
algorithm, typed kb+jwt, carrying an expected audience, whose hash commitment equals the hash of
exactly the presented issuer JWT and disclosures. A KB-JWT on an unbound SD-JWT is rejected, a
missing policy is rejected, and the holder cannot build without key binding from a bound SD-JWT.

`C05_accept_iff` is the decision logic of `Verifier::verify_raw` stated outright, for every
presentation string, every runtime (`Rt`: hashing and the JWT library's verdicts are parameters)
and both policies. `C05_verifyKb_iff` opens the key-binding check. `C05_tamper` shows that any
change of the disclosure list changes the string that is hashed. Signature and audience/algorithm
checks of the KB-JWT are the JWT library's (`kbDecode`), covered as in C04 / C11.
-/
open Impl Spec Assoc

/-- the key-binding check accepts iff the bound key is an RSA JWK with string `n`, `e`, the JWT
library accepts the KB-JWT under that key and the verifier's policy, and it is typed `kb+jwt` -/
theorem C05_verifyKb_iff (rt : Rt) (kb : String) (cnf : J) (kh kc : J) :
    verifyKb rt kb cnf = .ok (kh, kc) ↔
      (jidx cnf "kty").asStr = some "RSA" ∧ (jidx cnf "e").asStr ≠ none ∧
      (jidx cnf "n").asStr ≠ none ∧ rt.kbDecode kb cnf = .ok (kh, kc) ∧
      (jidx kh "typ").asStr = some "kb+jwt" :=
  verifyKb_ok_iff rt kb cnf kh kc

/-- **Key binding enforced.** Given that the issuer-signed JWT verifies and declares a supported
`_sd_alg`, the verifier accepts iff either the token is unbound and no KB-JWT is attached, or it is
bound, a KB-JWT is attached, a policy is configured, the key-binding check accepts it, and its
`sd_hash` is a string equal to the hash — under the declared algorithm — of the presentation up to
and including its last `~`. -/
theorem C05_accept_iff (rt : Rt) (tok : String) (policy : Bool) (parts : Parts) (header claims : J)
    (alg : String)
    (hp : sdJwtParts tok.toList = .ok parts)
    (hj : rt.jwtDecode (strOf parts.jwt) = .ok (header, claims))
    (ha : (jidx claims "_sd_alg").asStr = some alg) (hs : parseHashAlg alg = .ok alg) :
    (∃ r, Verifier.verifyRaw rt tok policy = .ok r) ↔
      (isNullJ (jidx claims "cnf") = true ∧ parts.kb = none) ∨
      (isNullJ (jidx claims "cnf") = false ∧ ∃ k, parts.kb = some k ∧ policy = true ∧
        ∃ kh kc, verifyKb rt (strOf k) (jidx claims "cnf") = .ok (kh, kc) ∧
          (jidx kc "sd_hash").asStr = some (rt.hash alg (strOf (dropKb tok.toList)))) := by
  constructor
  · rintro ⟨⟨h, c, ds⟩, hr⟩
    obtain ⟨parts', a, alg', hp', hj', ha', hs', _, hkb⟩ := (Verifier.verifyRaw_ok_iff ..).mp hr
    cases hp.symm.trans hp'
    cases hj.symm.trans hj'
    cases ha.symm.trans ha'
    cases hs.symm.trans hs'
    exact hkb
  · intro hkb
    exact ⟨_, (Verifier.verifyRaw_ok_iff ..).mpr ⟨parts, alg, alg, hp, hj, ha, hs, rfl, hkb⟩⟩

/-- the holder cannot build a presentation without key binding from a bound SD-JWT -/
theorem C05_holder_refuses (rt : Rt) (h : HolderState) (red : List String) (nonce : String) (now : Int)
    (seg : List Char) (claims : J)
    (hseg : getJwtPart h.sdJwt.toList .claims = .ok seg) (hc : rt.decodeClaims (strOf seg) = some claims)
    (hb : (jget? claims "cnf").isSome = true) :
    Holder.build rt h red none nonce now = .err .kbRequired := by
  unfold Holder.build
  simp [hseg, hc, hb]

/-- a KB-JWT attached to an SD-JWT without `cnf` is rejected -/
theorem C05_unbound_with_kb (rt : Rt) (tok : String) (policy : Bool) (parts : Parts) (header claims : J)
    (k : List Char)
    (hp : sdJwtParts tok.toList = .ok parts)
    (hj : rt.jwtDecode (strOf parts.jwt) = .ok (header, claims))
    (hn : isNullJ (jidx claims "cnf") = true) (hk : parts.kb = some k) :
    Verifier.verifyRaw rt tok policy = .err .rejected := by
  unfold Verifier.verifyRaw
  simp [hp, hj, hn, hk]

/-- Tampering: two presentations of the same issuer JWT whose `~`-free disclosure lists differ are
hashed over different strings — so, for a collision-free hash, a KB-JWT made for one is rejected
with the other (removing, adding, reordering or replacing any disclosure after binding). -/
theorem C05_tamper (jwt : String) (l1 l2 : List String)
    (h1 : ∀ d ∈ l1, '~' ∉ d.toList) (h2 : ∀ d ∈ l2, '~' ∉ d.toList) (hne : l1 ≠ l2) :
    assemble jwt l1 ≠ assemble jwt l2 := by
  intro heq
  apply hne
  have e := congrArg String.toList heq
  rw [toList_assemble, toList_assemble] at e
  have e2 := List.append_cancel_left (List.append_cancel_right e)
  -- what follows the JWT is `~`-free pieces joined by `~`: splitting gives the pieces back
  have e3 : (assemble "" l1 ++ "").toList = (assemble "" l2 ++ "").toList := by
    simp [toList_assemble, e2]
  rw [toList_assemble_append, toList_assemble_append] at e3
  have e4 := congrArg (splitOn '~') e3
  rw [splitOn_joinWith '~' _ (by simp) (pieces_no_tilde "" l1 "" (by simp) h1 (by simp)),
    splitOn_joinWith '~' _ (by simp) (pieces_no_tilde "" l2 "" (by simp) h2 (by simp))] at e4
  simp only [List.cons.injEq, true_and, List.append_cancel_right_eq] at e4
  exact (List.map_inj_right fun _ _ => String.toList_inj.mp).mp e4

/-- non-vacuity of `C05_tamper`: reordering two disclosures -/
example : assemble "j" ["a", "b"] ≠ assemble "j" ["b", "a"] :=
  C05_tamper "j" ["a", "b"] ["b", "a"] (by decide) (by decide) (by decide)

/-- **C05, acceptance end to end in the model (bound token).**  The issuer binds the token to
the key `X` (`require_key_binding`); the holder presents ANY selection `kept` of the disclosures
followed by a key-binding JWT `kb` that the JWT library accepts under `X` and the verifier's
key-binding policy (`kbDecode`), typed `kb+jwt`, whose `sd_hash` is the hash — under the declared
`sha-256` — of exactly the presentation up to and including its last `~`.  Then the verifier
accepts and returns the header and the issued claims projected on the selection, plus `cnf`.
(The rejecting side, for every other presentation, is `C05_accept_iff`.) -/
theorem C05_bound_accepts (rt : Rt) (mk : Nat → Option String → J → String)
    (paths : List String) (addr : List (List String × String)) (ms : MMems) (Tn : MJ)
    (ds : List SDisc) (decoys : Option (List String)) (X : MJ) (jwt : String) (header : J)
    (kept : List String) (kb : String) (kh kc : J)
    (wf : (MJ.obj ms none).WF) (hplain : (MJ.obj ms none).digests = [])
    (hk1 : "_sd_alg" ∉ ms.keys) (hk2 : "cnf" ∉ ms.keys)
    (hp : ParsedAll paths addr) (h : markAll mk 0 addr (.obj ms none) = some (Tn, ds)) (hne : ds ≠ [])
    (hdec : ∀ l, decoys = some l → l.Nodup ∧ (∀ g ∈ l, g ∉ Tn.digests))
    (hX : X.WF ∧ X.digests = [])
    (hsig : ∀ payload dsrc,
      encode (MJ.obj ms none).payload paths mk decoys (some X.payload) = .ok (payload, dsrc) →
      rt.jwtDecode jwt = .ok (header, payload))
    (hstr : ∀ s ∈ kept, ∃ e ∈ ds,
      fromBase64 (rt.env "sha-256") s = .ok ⟨s, e.digest, e.key, e.value⟩)
    (hnd : (kept.map (rt.hash "sha-256")).Nodup)
    (hj : '~' ∉ jwt.toList) (hs : ∀ s ∈ kept, '~' ∉ s.toList)
    (hkb : '~' ∉ kb.toList) (hkbne : kb.toList ≠ [])
    (hkty : (jidx X.payload "kty").asStr = some "RSA")
    (he : (jidx X.payload "e").asStr.isSome = true) (hn : (jidx X.payload "n").asStr.isSome = true)
    (hkbdec : rt.kbDecode kb X.payload = .ok (kh, kc))
    (htyp : (jidx kh "typ").asStr = some "kb+jwt")
    (hhash : (jidx kc "sd_hash").asStr = some (rt.hash "sha-256" (assemble jwt kept))) :
    ∃ msn sdn, Tn = .obj msn sdn ∧
      Verifier.verify rt (assemble jwt kept ++ kb) true =
        .ok (header, .obj (ains "cnf" (X.project (fun g => kept.any fun s => decide (rt.hash "sha-256" s = g)))
          (msn.project (fun g => kept.any fun s => decide (rt.hash "sha-256" s = g))))) :=
  verifier_verify_issued_bound rt mk paths addr ms Tn ds decoys X jwt header kept kb kh kc wf hplain hk1 hk2
    hp h hne hdec hX hsig hstr hnd hj hs hkb hkbne hkty he hn hkbdec htyp hhash
