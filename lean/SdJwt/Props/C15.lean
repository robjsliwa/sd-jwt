import SdJwt.Lemmas.YamlL
import SdJwt.Lemmas.YamlParse
import SdJwt.Lemmas.YamlIssue
import SdJwt.Lemmas.EndToEnd
/-!
# C15 — YAML claims with `!sd` tags mean the same as JSON claims plus those paths

Statement: parsing YAML claims yields the same JSON claims as the document without its tags, and
exactly one path per `!sd`-tagged node — the JSON pointer of that node — ordered so that issuing
with them succeeds; no tagged node is silently ignored and no untagged node is reported.

`C15_parse` and `C15_paths` are the general statement: for *every* marked claims tree a YAML
document can express (tags on keys at any depth — inside sequences, below other tagged keys, in
single-entry mappings — and on string sequence items), parsing the annotated document `T.toY`
returns the tree's plain claims and a path list that is, as a multiset, exactly the JSON pointers
of the marked nodes, nested ones first.  `C15_issuing_succeeds` is the statement's "ordered so that
issuing with them succeeds": the issuer model run on exactly what `parse_yaml` returns succeeds
with one disclosure per path; `C15_end_to_end` continues through the wire format and the holder:
the holder gets back the document without its tags and the reported paths.  The remaining
theorems are the local rules.

The model starts at the parsed YAML value (`serde_yaml::Value`; YAML text → value is trusted and
exercised by the generated documents only).
-/
open Impl

/-- the tag walk and the conversion return a value or an error for every YAML value -/
theorem C15_total (doc : Y) : (parseYaml doc).NoPanic := parseYaml_noPanic doc

/-- a tagged key whose content is not a string is an error, not a silently ignored tag -/
theorem C15_tagged_key_must_be_string (tv : Y) (h : tv.asStr = none) :
    keyKind (.tagged "!sd" tv) = .err .yaml := by
  simp [keyKind, h]

/-- a tagged string key is reported with `tagged = true` and its name, i.e. it is descended into
(tags below a tagged key are not lost — D19) and its own path is pushed after the nested ones -/
theorem C15_tagged_key_descends (name : String) (path : List String) (v : Y) (r : List (Y × Y))
    (v' : Y) (p1 : List String) (r' : List (Y × Y)) (p2 : List String)
    (hv : collect (path ++ [Path.escapeSeg name]) v = .ok (v', p1))
    (hr : collect.collectM path r = .ok (r', p2)) :
    collect.collectM path ((.tagged "!sd" (.str name), v) :: r) =
      .ok ((.str name, v') :: r', p1 ++ [joinPath (path ++ [Path.escapeSeg name])] ++ p2) := by
  simp [collect.collectM, keyKind, Y.asStr, hv, hr]

/-- a single-entry mapping whose only key is tagged parses, its key untagged (D19) -/
theorem C15_single_entry (name : String) (s : String) :
    parseYaml (.map [(.tagged "!sd" (.str name), .str s)]) =
      .ok (.obj [(name, .str s)], ["/" ++ Path.escapeSeg name]) := by
  simp [parseYaml, collect, collect.collectM, keyKind, Y.asStr, yamlToJson, yamlToJson.mapToJson,
    Assoc.ofList, Assoc.ains, joinPath]

/-- a tagged string sequence item is reported once, with its index, and loses its tag -/
theorem C15_tagged_item (s : String) :
    parseYaml (.map [(.str "n", .seq [.str "a", .tagged "!sd" (.str s)])]) =
      .ok (.obj [("n", .arr [.str "a", .str s])], ["/n/1"]) :=
  parseYaml_toY (.obj (.clear "n" (.arr (.clear (.leaf (.str "a")) (.marked "" (.leaf (.str s)) .nil))) .nil) none)
    (by simp [J.scalar]) (by simp [MJ.YamlOK, MMems.YamlOK, MElems.YamlOK, J.scalar])

/-- **C15, general (claims and order).** Parsing the document that annotates the marked tree `T`
with `!sd` tags returns `T`'s plain claims — the document without its tags — and the path list
`T.ypaths []`: for each tagged key the paths below it first, then its own. -/
theorem C15_parse (T : MJ) (wf : T.WF) (hy : T.YamlOK) :
    parseYaml T.toY = .ok (T.plain, T.ypaths []) := parseYaml_toY T wf hy

/-- **C15, general (exactly the tagged nodes).** The reported path list is a permutation of the
JSON pointers (`format_path`, RFC 6901 escaping) of the marked nodes of `T`: one path per tagged
node, none for an untagged one. -/
theorem C15_paths (T : MJ) (hy : T.YamlOK) :
    (T.ypaths []).Perm ((T.paths "").map (·.1)) := by
  simpa [joinPath] using MJ.ypaths_perm T [] hy

/-- non-vacuity: a tagged key below a tagged key, inside a sequence, next to a tagged item -/
example :
    let T : MJ := .obj (.clear "l" (.arr (.clear (.obj (.marked "a/b" "d1"
                        (.obj (.marked "c" "d2" (.leaf (.str "x")) .nil) (some ["d2"])) .nil) (some ["d1"]))
                      (.marked "d3" (.leaf (.str "s")) .nil))) .nil) none
    T.WF ∧ T.YamlOK ∧ T.ypaths [] = ["/l/0/a~1b/c", "/l/0/a~1b", "/l/1"] := by
  refine ⟨?_, ?_, by decide +kernel⟩
  · simp [J.scalar]
  · simp [MJ.YamlOK, MMems.YamlOK, MElems.YamlOK, J.scalar]

/-- **C15: the order is one with which issuing succeeds.** For every marked tree a YAML document
can express (arrays shorter than 2^64, which is what a `usize` index can address) and every digest
function that never returns the same value for two draws: the issuer model, run on exactly what
`parse_yaml` returns — the plain claims and the reported paths in the reported order — succeeds
and makes one disclosure per reported path.  ("Issuing from the parsed result" *is* issuing from
the plain claims with those paths: `parse_yaml` returns nothing else.) -/
theorem C15_issuing_succeeds (mk : Nat → Option String → J → String)
    (hmk : ∀ i j k v k' v', mk i k v = mk j k' v' → i = j)
    (T : MJ) (wf : T.WF) (hy : T.YamlOK) (hs : T.Small) :
    ∃ c paths payload ds, parseYaml T.toY = .ok (c, paths) ∧
      applyPaths mk 0 c paths = .ok (payload, ds) ∧ ds.length = paths.length := by
  obtain ⟨hp, Tn, ds, h, hlen⟩ := yaml_paths_markAll mk hmk T wf hy hs
  have h1 := (applyPaths_markAll mk (T.ypaths []) (T.yaddrs []) 0 T.unmark Tn ds (MJ.unmark_wf T wf) hp h).1
  rw [MJ.unmark_payload] at h1
  exact ⟨T.plain, T.ypaths [], Tn.payload, ds.map toSrc, C15_parse T wf hy, h1, by simpa using hlen⟩

/-- **C15 end to end: what the holder gets back is the document without its tags.** For a YAML
mapping that tags at least one node: issue from what `parse_yaml` returns, serialise, hand the
token to the holder (runtime assumptions exactly those of `C01_end_to_end`: the JWT library
returns what was signed, each disclosure string decodes to the disclosure it was made from and
hashes to its digest, no `~` inside a segment): the holder accepts and returns the plain claims
of the document (plus `cnf` for a bound token), and reports, up to order, exactly the path
strings `parse_yaml` reported. -/
theorem C15_end_to_end (rt : Rt) (mk : Nat → Option String → J → String)
    (hmk : ∀ i j k v k' v', mk i k v = mk j k' v' → i = j)
    (ms : MMems) (sd : Option (List String))
    (wf : (MJ.obj ms sd).WF) (hy : (MJ.obj ms sd).YamlOK) (hs : (MJ.obj ms sd).Small)
    (hk1 : "_sd_alg" ∉ ms.keys) (hk2 : "cnf" ∉ ms.keys) (hne : (MJ.obj ms sd).ypaths [] ≠ []) :
    ∃ Tn ds, markAll mk 0 ((MJ.obj ms sd).yaddrs []) (.obj ms.unmark none) = some (Tn, ds) ∧
      ∀ (decoys : Option (List String)) (cnf : Option MJ) (jwt : String) (header : J) (strs : List String),
        (∀ l, decoys = some l → l.Nodup ∧ (∀ g ∈ l, g ∉ Tn.digests)) →
        (∀ X, cnf = some X → X.WF ∧ X.digests = []) →
        (∀ payload dsrc,
          encode (MJ.obj ms sd).plain ((MJ.obj ms sd).ypaths []) mk decoys (cnf.map (·.payload)) = .ok (payload, dsrc) →
          rt.jwtDecode jwt = .ok (header, payload)) →
        (∀ s ∈ strs, ∃ e ∈ ds, fromBase64 (rt.env "sha-256") s = .ok ⟨s, e.digest, e.key, e.value⟩) →
        (strs.map (rt.hash "sha-256")).Nodup →
        (∀ e ∈ ds, ∃ s ∈ strs, rt.hash "sha-256" s = e.digest) →
        '~' ∉ jwt.toList → (∀ s ∈ strs, '~' ∉ s.toList) →
        ∃ ps, Holder.verify rt (assemble jwt strs) = .ok (header, expectedClaims ms cnf, ps) ∧
          (ps.map (·.1)).Perm ((MJ.obj ms sd).ypaths []) := by
  obtain ⟨hp, Tn, ds, h, hlen⟩ := yaml_paths_markAll mk hmk (.obj ms sd) wf hy hs
  refine ⟨Tn, ds, h, fun decoys cnf jwt header strs hdec hX hsig hstr hnd hall hj hss => ?_⟩
  have wfu : (MJ.obj ms.unmark none).WF := MJ.unmark_wf _ wf
  have hpl : (MJ.obj ms.unmark none).digests = [] := MJ.unmark_digests (.obj ms sd)
  have hpay : (MJ.obj ms.unmark none).payload = (MJ.obj ms sd).plain := MJ.unmark_payload (.obj ms sd)
  obtain ⟨ps, hv, hperm, _⟩ := holder_verify_issued rt mk _ _ ms.unmark Tn ds decoys cnf jwt header strs wfu hpl
    (unmark_keys ms ▸ hk1) (unmark_keys ms ▸ hk2) hp h
    (fun e => hne (List.length_eq_zero_iff.mp (by simpa [e] using hlen.symm)))
    hdec hX (hpay ▸ hsig) hstr hnd hall hj hss
  refine ⟨ps, ?_, ?_⟩
  · have : expectedClaims ms.unmark cnf = expectedClaims ms cnf := by
      cases cnf <;> simp [expectedClaims, MMems.unmark_project]
    exact this ▸ hv
  · have hcanon := issued_pointers_r mk _ _ Tn ds (no_digests _ wfu hpl).1
      (yaddrs_addressable (.obj ms sd) wf hy hs) (MJ.yaddrs_nested _ [] wf) h
    rw [← show (MJ.obj ms sd).ypaths [] = _ from MJ.ypaths_render _ []] at hcanon
    have h2 := hperm.map (·.1)
    rw [List.map_map] at h2
    exact h2.trans hcanon

/-- non-vacuity of `C15_issuing_succeeds` / `C15_end_to_end`: the document of the example above
(a tagged key below a tagged key with `/` in its name, inside a sequence, next to a tagged item)
meets every hypothesis, and so does the digest function "draw counter" -/
example :
    let T : MJ := .obj (.clear "l" (.arr (.clear (.obj (.marked "a/b" "d1"
                        (.obj (.marked "c" "d2" (.leaf (.str "x")) .nil) (some ["d2"])) .nil) (some ["d1"]))
                      (.marked "d3" (.leaf (.str "s")) .nil))) .nil) none
    T.Small ∧ T.ypaths [] ≠ [] ∧
      (∀ i j (k : Option String) (v : J) (k' : Option String) (v' : J),
        (fun (n : Nat) (_ : Option String) (_ : J) => toString n) i k v =
        (fun (n : Nat) (_ : Option String) (_ : J) => toString n) j k' v' → i = j) := by
  refine ⟨?_, by decide +kernel, fun i j _ _ _ _ h => toString_nat_inj h⟩
  simp [MJ.Small, MMems.Small, MElems.Small, elemCount]

