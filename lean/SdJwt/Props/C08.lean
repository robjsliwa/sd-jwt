import SdJwt.Lemmas.Strip
import SdJwt.Lemmas.Total
import SdJwt.Lemmas.RestoreAll
import SdJwt.Lemmas.Complete
import SdJwt.Lemmas.SpecAgree
/-!
# C08 — conformant SD-JWTs from other issuers are processed as the specification says

Statement: for every specification-conformant SD-JWT of an independent issuer — any supported
digest algorithm, any order of disclosures, arbitrary JSON formatting inside disclosures, salts of
any length, decoys at any level, recursive disclosures — holder and verifier reconstruct the same
claims as the specification's algorithm.

A conformant SD-JWT *is* `payload T` plus `discs T` for a marked tree `T` with `T.WF` (any `_sd`
order, decoys anywhere, recursion): nothing in `MJ` is specific to this crate's issuer. `_sd_alg`,
salt length and JSON formatting do not occur in the structural statements at all: the model hashes
"the string as presented" through the parameter `Env.hash` and never re-serialises a disclosure,
which the correspondence run confirms on the real code for sha-256/384/512.
-/
open Impl Spec Assoc

/-- the digest of a presented disclosure is the hash of the string as presented — whatever JSON
whitespace, member order or salt it contains — under the environment's (i.e. the token's declared)
algorithm -/
theorem C08_digest_of_presented_string (env : Env) (s : String) (d : Disc)
    (h : fromBase64 env s = .ok d) : d.digest = env.hash s ∧ d.str = s :=
  fromBase64_ok env s d h

/-- stripping the fully restored view of ANY conformant tree gives its original claims -/
theorem C08_strip_all (T : MJ) (wf : T.WF) : removeAll (T.hview (fun _ => true)) = T.plain :=
  MJ.removeAll_hview _ T wf

/-- …and the projection for every subset of disclosures (decoys never surface: they are digests
without a disclosure) -/
theorem C08_strip (S : String → Bool) (T : MJ) (wf : T.WF) : removeAll (T.hview S) = T.project S :=
  MJ.removeAll_hview S T wf

/-- decoy placeholders and decoy digests leave no trace in the result: a tree consisting of
decoys only strips to the empty containers -/
example : removeAll ((MJ.obj (.clear "a" (.arr (.decoy "d1" (.decoy "d2" .nil))) .nil) (some ["d3", "d4"])).hview (fun _ => true))
    = .obj [("a", .arr [])] := by
  rfl

/-- **Interoperability (T-restore).** `T` ranges over ALL conformant structure — any `_sd` order,
decoys at any level, recursive disclosures, any depth. Whatever order the disclosures come in, if
the library accepts them it reconstructs exactly the specification's result: the claims with the
marked nodes present whose own and enclosing disclosures were presented. -/
theorem C08_interop (env : Env) (T : MJ) (strs : List String) (inv : TreeInv T)
    (hacc : ∀ s ∈ strs, ∀ d, fromBase64 env s = .ok d → DOk T d) (c : J) (ps : List PathEntry)
    (h : restoreAll env T.payload strs = .ok (c, ps)) :
    removeAll c = T.project (fun g => strs.any (fun s => env.hash s = g)) := by
  rcases restoreAll_sound env T strs inv hacc with ⟨e, he⟩ | ⟨c', ps', h', hp⟩
  · rw [he] at h; cases h
  · rw [h'] at h; cases h; exact hp

/-- with all disclosures presented (in any order) the result is the original claims -/
theorem C08_interop_all (env : Env) (T : MJ) (strs : List String) (inv : TreeInv T)
    (hacc : ∀ s ∈ strs, ∀ d, fromBase64 env s = .ok d → DOk T d) (c : J) (ps : List PathEntry)
    (h : restoreAll env T.payload strs = .ok (c, ps))
    (hall : ∀ g ∈ T.allMarks, ∃ s ∈ strs, env.hash s = g) :
    removeAll c = T.plain := by
  rw [C08_interop env T strs inv hacc c ps h]
  apply MJ.project_congr
  intro g hg
  obtain ⟨s, hs, e⟩ := hall g hg
  show (strs.any fun s => decide (env.hash s = g)) = true
  simp only [List.any_eq_true, decide_eq_true_eq]
  exact ⟨s, hs, e⟩

/-- the rounds never fail on acceptable disclosures of a conformant tree, in any order, nested
ones before or after their enclosing ones (D4) -/
theorem C08_rounds_total (T : MJ) (L : List Disc) (inv : TreeInv T) (hok : ∀ d ∈ L, DOk T d)
    (hdist : Distinct L) :
    ∃ c ps, rounds L.length T.payload L [] = .ok (c, ps) ∧
      removeAll c = T.project (fun h => L.any (fun d => d.digest = h)) :=
  rounds_project T L inv hok hdist

/-- …and they ARE accepted: every conformant SD-JWT of any issuer, its disclosures presented in
any order, any subset of them, is accepted and processed as the specification says -/
theorem C08_accepted (env : Env) (T : MJ) (strs : List String) (inv : TreeInv T)
    (hdec : ∀ s ∈ strs, ∃ d, fromBase64 env s = .ok d)
    (hnd : (strs.map env.hash).Nodup)
    (hacc : ∀ s ∈ strs, ∀ d, fromBase64 env s = .ok d →
      DOk T d ∧ ∃ x, (d.digest, x) ∈ T.hiddenE ∧ d.value = x.payload) :
    ∃ c ps, restoreAll env T.payload strs = .ok (c, ps) ∧
      removeAll c = T.project (fun h => strs.any (fun s => env.hash s = h)) :=
  restoreAll_complete env T strs inv hdec hnd hacc

/-- **C08: conformant SD-JWTs are processed as the specification says.**  `Ref.verify` is the
draft's verification algorithm written from the text (no shared definition).  For every
conformant tree — any issuer's: objects and arrays at any depth, decoys anywhere, `_sd` in any
order, recursive disclosures — and ANY selection of its disclosures presented as strings in ANY
order: the library's restorer accepts, the specification's algorithm accepts, and after the
library's `remove_digests` they return the same claims. -/
theorem C08_same_as_specification (env : Env) (T : MJ) (inv : TreeInv T)
    (sub : List (String × SDisc × J))
    (hsub : ∀ p ∈ sub, p.2.1 ∈ T.discs ∧ p.2.1.digest ∉ T.deepStale ∧
      env.decodeDisc p.1 = some (Ref.discJ p.2.2 p.2.1) ∧ env.hash p.1 = p.2.1.digest)
    (hnd : (sub.map (·.2.1.digest)).Nodup) :
    ∃ c ps, restoreAll env T.payload (sub.map (·.1)) = .ok (c, ps) ∧
      Ref.verify false T.payload (Ref.tblOf (sub.map (fun p => (p.2.1, p.2.2)))) = .ok (removeDigests c) :=
  restore_agrees_with_spec env T inv sub hsub hnd
