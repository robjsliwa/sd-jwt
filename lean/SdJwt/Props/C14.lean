import SdJwt.Lemmas.IssuerL
import SdJwt.Lemmas.IssueAll
import SdJwt.Lemmas.Defined
import SdJwt.Lemmas.ObjectsL
/-!
# C14 — issuing is total, side-effect free and repeatable

Statement: for every claims object and list of paths, issuing either succeeds or returns an error
when a path cannot be resolved; it never panics, also not for zero or negative decoy maxima.
Issuing does not change the issuer object.

`C14_total`: the model of `Issuer::encode` (with an explicit `panic` outcome wherever the Rust can
panic: `IndexMut` on a non-object, `Vec::remove`, `gen_range`) never panics on a claims *object*,
for all path lists, all digests, all decoy draws and with or without `cnf`. `C14_root_must_be_object`
shows the `panic` outcome is live (a non-object root with a marked element does panic — outside the
property's quantifier, recorded in DESIGN §3). Error classification lemmas follow.
In the model `encode` is a function of the issuer's fields and returns no new issuer state: the
issuer object is unchanged by construction; that the real `encode(&mut self)` leaves the object
unchanged is observed by the run (Debug rendering before/after three calls), not proved.
-/
open Impl Assoc

/-- never a panic, for every claims object, path list, digest function, decoy draw, cnf -/
theorem C14_total (ms : List (String × J)) (paths : List String)
    (mk : Nat → Option String → J → String) (decoys : Option (List String)) (cnf : Option J) :
    (encode (.obj ms) paths mk decoys cnf).NoPanic :=
  encode_noPanic_obj (.obj ms) paths mk decoys cnf rfl

/-- the panic outcome is not decoration: a root that is an array, with one element marked, makes
`updated_claims["_sd_alg"] = …` panic (claims objects — the property's quantifier — never do) -/
theorem C14_root_must_be_object :
    encode (.arr [.str "x"]) ["/0"] (fun _ _ _ => "dg") none none = .panic := by
  rfl

/-- no leading slash (no `/` at all): `InvalidPathPointer` -/
theorem C14_err_no_slash (mk : Option String → J → String) (c : J) (p : String) (h : '/' ∉ p.toList) :
    buildDisclosure mk c p = .err .path := by
  simp [buildDisclosure, parentElem_no_slash p.toList h]

/-- unknown member of the addressed parent object -/
theorem C14_err_unknown_member (mk : Option String → J → String) (key : String) (ms : List (String × J))
    (h : aget key ms = none) : hideIn mk key (.obj ms) = .err .path := by
  simp [hideIn, h]

/-- index out of range (D8: an error, not a panic) -/
theorem C14_err_index_out_of_range (mk : Option String → J → String) (key : String) (xs : List J) (i : Nat)
    (hp : parseUsize key.toList = some i) (h : xs.length ≤ i) : hideIn mk key (.arr xs) = .err .path := by
  have : xs[i]? = none := by simp [h]
  simp [hideIn, hp, this]

/-- non-numeric index -/
theorem C14_err_non_numeric_index (mk : Option String → J → String) (key : String) (xs : List J)
    (hp : parseUsize key.toList = none) : hideIn mk key (.arr xs) = .err .path := by
  simp [hideIn, hp]

/-- a path into a scalar (e.g. below an already hidden scalar claim) -/
theorem C14_err_into_scalar (mk : Option String → J → String) (key : String) (j : J) (h : J.scalar j) :
    hideIn mk key j = .err .path := by
  cases j <;> simp_all [hideIn, J.scalar]

/-- a path through a member that an earlier path has removed cannot be resolved -/
theorem C14_err_through_removed {α : Type} (f : J → Outcome (J × α)) (t : String) (r : List String)
    (ms : List (String × J)) (h : aget t ms = none) : updateAt f (t :: r) (.obj ms) = .err .path := by
  simp [updateAt, h]

/-- what the class of the result depends on: not on the digests (as long as `_sd` is not itself a
claim name), shown here for the first step — an unresolvable first path fails under every draw -/
theorem C14_err_independent_of_randomness (c : J) (p : String) (mk1 mk2 : Option String → J → String)
    (h : '/' ∉ p.toList) : buildDisclosure mk1 c p = buildDisclosure mk2 c p := by
  rw [C14_err_no_slash mk1 c p h, C14_err_no_slash mk2 c p h]

/-- zero, negative or absent decoy maxima mean "no decoys" in the repaired code (D9): the model's
`decoys = none`; the payload is then produced without touching `_sd` at the top level -/
theorem C14_no_decoys (ms : List (String × J)) (mk : Nat → Option String → J → String) :
    encode (.obj ms) [] mk none none = .ok (.obj ms, []) := by
  simp [encode, applyPaths]

/-- **Valid markings succeed** — including when only nested members or only array elements are
disclosable (D7): whenever marking the addressed nodes in the given order is defined on the claims
tree, `applyPaths` returns `ok` (with the payload of the marked tree, see C07_issue) -/
theorem C14_valid_ok (mk : Nat → Option String → J → String) (paths : List String)
    (addr : List (List String × String)) (T Tn : MJ) (ds : List SDisc) (wf : T.WF)
    (hp : ParsedAll paths addr) (h : markAll mk 0 addr T = some (Tn, ds)) :
    ∃ r, applyPaths mk 0 T.payload paths = .ok r :=
  ⟨_, (applyPaths_markAll mk paths addr 0 T Tn ds wf hp h).1⟩

/-- non-vacuity with only a nested array element disclosable: `/n/1` in `{"n":["a","b"]}` -/
example :
    let T : MJ := .obj (.clear "n" (.arr (.clear (.leaf (.str "a")) (.clear (.leaf (.str "b")) .nil))) .nil) none
    (markAll (fun _ _ _ => "dg") 0 [(["n"], "1")] T).map (fun r => r.1.payload)
      = some (.obj [("n", .arr [.str "a", .obj [("...", .str "dg")]])]) := by
  rfl

/-- **Valid markings succeed, in the property's own terms.** Issuing succeeds *whenever each path
addresses an existing member or element, nested paths precede enclosing ones and no path repeats*:
`Addressable T a` — the tokens of the path lead through existing (not yet hidden) members /
elements of the claims to an existing one that is not a reserved name, a token that addresses an
array element being the canonical decimal of its index (`/a/1`, not `/a/01` or `/a/+1`, which
alias the same element and are left to the run; member names are unrestricted: `"01"` is a fine
name) — `canMarkChild_obj`, `canMarkChild_arr` spell this out for claims in which nothing is
hidden; `NestedFirst` — no later path is equal to or inside an earlier one; and the digests
are fresh: the digest function never returns the same value for two different draws, nor a
string the claims already contain as a digest. This discharges the hypothesis `markAll … = some _`
of `C14_valid_ok`, `C01_end_to_end`, `C07_issue`. -/
theorem C14_valid_marking_ok (mk : Nat → Option String → J → String)
    (hmk : ∀ i j k v k' v', mk i k v = mk j k' v' → i = j)
    (paths : List String) (addr : List (List String × String)) (T : MJ) (wf : T.WF)
    (hp : ParsedAll paths addr)
    (haddr : ∀ a ∈ addr, Addressable T a)
    (hnf : NestedFirst addr)
    (hfresh : ∀ g ∈ T.digests, ∀ j k v, g ≠ mk j k v) :
    ∃ r, applyPaths mk 0 T.payload paths = .ok r := by
  obtain ⟨Tn, ds, h⟩ := markAll_defined mk hmk addr 0 T haddr hnf (fun g hg j k v _ => hfresh g hg j k v)
  exact C14_valid_ok mk paths addr T Tn ds wf hp h

/-- non-vacuity: `{"a":{"b":1,"c":2},"n":["x","y"]}` with `/a/b`, `/n/1`, `/a` (nested before
enclosing, only nested and array paths first): every hypothesis holds -/
example :
    let T : MJ := .obj (.clear "a" (.obj (.clear "b" (.leaf (.num 1 0)) (.clear "c" (.leaf (.num 2 0)) .nil)) none)
                  (.clear "n" (.arr (.clear (.leaf (.str "x")) (.clear (.leaf (.str "y")) .nil))) .nil)) none
    let addr : List (List String × String) := [(["a"], "b"), (["n"], "1"), ([], "a")]
    (∀ a ∈ addr, Addressable T a) ∧ NestedFirst addr := by
  refine ⟨?_, ?_⟩
  · intro a ha
    simp only [List.mem_cons, List.not_mem_nil, or_false] at ha
    rcases ha with rfl | rfl | rfl <;> (unfold Addressable; rfl)
  · simp only [NestedFirst, List.mem_cons, List.not_mem_nil, or_false, and_true]
    refine ⟨?_, ?_, ?_⟩
    · intro b hb; rcases hb with rfl | rfl <;> decide
    · intro b hb; subst hb; decide
    · intro b hb; cases hb



/-! ## The issuer as an object: histories -/

/-- **issuing does not change the issuer object**: what the object holds after any history of
calls is what it holds after the same history with every `encode` call removed — so what a later
`encode` returns (header, payload, disclosures: `IssuerObj.observe`) does not depend on whether,
when or how often `encode` was called before -/
theorem C14_encode_leaves_object (s : IssuerObj) (ops : List IssuerOp) :
    s.run ops = s.run (ops.filter (fun o => !o.isEncode)) ∧
    ∀ mk drawn, (s.run ops).observe mk drawn = (s.run (ops.filter (fun o => !o.isEncode))).observe mk drawn := by
  have h := IssuerObj.run_drop_encodes ops s
  exact ⟨h, fun mk drawn => by rw [← h]⟩

/-- **what the object holds after a history, field by field**: the paths are those of the
`disclosable` calls in call order (appended to what was there); header, decoy maximum and bound key
are those of the *last* call that set them (an earlier value never survives a later call, whatever
happened in between); the claims are the original ones with `exp` = the last requested `now + n`.
Each setter touches its own field only. -/
theorem C14_history (s : IssuerObj) (ops : List IssuerOp) :
    (s.run ops).paths = s.paths ++ pathsOf ops ∧
    (s.run ops).header = (lastHeader ops).getD s.header ∧
    (s.run ops).maxDecoys = (lastDecoy ops).orElse (fun _ => s.maxDecoys) ∧
    (s.run ops).cnf = (lastCnf ops).orElse (fun _ => s.cnf) ∧
    (s.run ops).claims = (match lastExp ops with
      | some v => setExp v s.claims
      | none => s.claims) := by
  induction ops generalizing s with
  | nil => simp [IssuerObj.run, pathsOf, lastHeader, lastDecoy, lastCnf, lastExp]
  | cons o r ih =>
    have := ih (s.step o)
    cases o <;> simp_all [IssuerObj.run, IssuerObj.step, pathsOf, lastHeader, lastDecoy, lastCnf, lastExp]
    cases lastExp r <;> simp [setExp_setExp]

/-- an expiry requested as `n` seconds from `now` is recorded as `now + n`, replacing whatever `exp`
the claims carried and whatever was requested before -/
theorem C14_expiry_recorded (ms : List (String × J)) (n now : Int) :
    aget "exp" (match setExp (now + n) (.obj ms) with | .obj m => m | _ => []) = some (.num (now + n) 0) := by
  simp [setExp, aget_ains_self]

example : (({ claims := .obj [("exp", .num 5 0)], paths := [], maxDecoys := none, header := .null, cnf := none } : IssuerObj).run
    [.expiresIn 60 1000, .encode, .header (.str "h1"), .disclosable "/a", .encode, .expiresIn 3600 2000,
     .header (.str "h2"), .encode]).claims = .obj [("exp", .num 5600 0)] := by
  simp [IssuerObj.run, IssuerObj.step, setExp, ains]

/-- **it can be repeated**: calling `encode` any number of times in a row leaves the object where it was,
so every one of these calls observes the same claims, paths, header, decoy maximum and bound key — each
with its own draw of salts (`mk`) and decoys (`drawn`). Each observation is therefore an issuance of the
same claims with the same markings, to which `C01_end_to_end` applies separately: every one of the
tokens verifies to the same claims. -/
theorem C14_repeat (s : IssuerObj) (ops more : List IssuerOp) (h : ∀ o ∈ more, o.isEncode = true) :
    s.run (ops ++ more) = s.run ops ∧
    ∀ mk drawn, (s.run (ops ++ more)).observe mk drawn = (s.run ops).observe mk drawn := by
  have e : s.run (ops ++ more) = s.run ops := by
    rw [IssuerObj.run_append, IssuerObj.run_drop_encodes more]
    have : more.filter (fun o => !o.isEncode) = [] := by
      apply List.filter_eq_nil_iff.mpr
      intro o ho; simp [h o ho]
    rw [this]; rfl
  exact ⟨e, fun mk drawn => by rw [e]⟩
