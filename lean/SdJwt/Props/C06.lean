import SdJwt.Lemmas.Conf
import SdJwt.Lemmas.Redact
/-!
# C06 — undisclosed claims stay confidential in the issuer JWT and in presentations

Statement: neither the name nor the value of a disclosable claim appears in the issuer-signed JWT;
a presentation contains no disclosure for any claim the holder redacted nor for any claim nested
inside a redacted claim.

Tree level (proved): `C06_payload_*` — every string that occurs in `payload T` (member name or
string value, at any depth) occurs in `T` outside every marked node, or is a digest, or is `_sd` /
`...`. `C06_presentation_*` — the disclosures `Holder::build` keeps exclude every redacted path and
every path below a redacted disclosure. Byte level (JSON text contains a string only if the tree
does; base64 of it) is checked by the sentinel search on the real output, not proved.
-/
open Impl Spec Assoc

/-- **Confidentiality of the payload.** A string that occurs in the signed payload occurs in the
claims outside every disclosable node, or is a digest, or is the bookkeeping name `_sd` / `...`.
Hence a name or value that occurs only inside a marked node (and is not itself a digest string)
is nowhere in the issuer-signed JWT's claims. -/
theorem C06_payload (T : MJ) (s : String) (h : s ∈ J.strings T.payload) :
    s ∈ T.clearStrings ∨ s ∈ T.digests ∨ s = "_sd" ∨ s = "..." :=
  MJ.payload_strings T s h

/-- the same for a disclosure: its value is the payload of the node it discloses, so it contains
the node's clear strings and digests for the marked nodes inside it — never their plaintext -/
theorem C06_disclosure_value (x : MJ) (s : String) (h : s ∈ J.strings x.payload) :
    s ∈ x.clearStrings ∨ s ∈ x.digests ∨ s = "_sd" ∨ s = "..." :=
  MJ.payload_strings x s h

/-- a redacted path is not presented -/
theorem C06_presentation_redacted (paths : List PathEntry) (redacted : List String) (pe : PathEntry)
    (h : pe ∈ keptEntries paths redacted) : pe.1 ∉ redacted :=
  ((mem_keptEntries paths redacted pe).mp h).2.1

/-- nothing below a redacted disclosure is presented (D6) -/
theorem C06_presentation_below (paths : List PathEntry) (redacted : List String) (pe q : PathEntry)
    (h : pe ∈ keptEntries paths redacted) (hq : q ∈ paths) (hr : q.1 ∈ redacted) :
    ¬ ((q.1 ++ "/").toList.isPrefixOf pe.1.toList = true) :=
  ((mem_keptEntries paths redacted pe).mp h).2.2 q hq hr

/-- non-vacuity: a tree whose marked member's name and value are absent from the payload -/
example :
    let T : MJ := .obj (.marked "secret-name" "dg1" (.leaf (.str "secret-value"))
                    (.clear "shown" (.leaf (.str "v")) .nil)) (some ["dg1"])
    "secret-name" ∉ J.strings T.payload ∧ "secret-value" ∉ J.strings T.payload ∧ "v" ∈ J.strings T.payload := by
  decide +kernel

/-- **No disclosure for a redacted claim nor for a claim nested inside a redacted claim, and
every other one is kept** — in terms of the tree, for ANY redaction list: the entry of a marked
node is kept iff its pointer is not redacted and the node does not lie inside a marked node whose
pointer is redacted.  Hence the number of kept disclosures is |M minus below-or-equal(R)|. -/
theorem C06_kept_tree (T : MJ) (wf : T.WF) (nd : T.allMarks.Nodup) (ps : List PathEntry)
    (hps : HolderList T ps) (R : List String) (pe : PathEntry) :
    pe ∈ keptEntries ps R ↔
      pe ∈ ps ∧ pe.1 ∉ R ∧ ∀ q ∈ ps, q.1 ∈ R → pe.2.digest ∉ T.under q.2.digest :=
  kept_iff_tree T wf nd ps hps R pe

/-- the string test of `Holder::build` is the tree's ancestry: for two marked nodes with pointers
`q'`, `q` and digests `g'`, `g`, `q` starts with `q' + "/"` iff `g` lies strictly inside `g'` -/
theorem C06_starts_with_is_ancestry (T : MJ) (wf : T.WF) (nd : T.allMarks.Nodup)
    (q' g' q g : String) (h' : (q', g') ∈ T.paths "") (h : (q, g) ∈ T.paths "") :
    ((q' ++ "/").toList.isPrefixOf q.toList = true) ↔ g ∈ T.under g' :=
  starts_with_iff_under T wf nd q' g' q g h' h
